-- Root of the AnonModel library: generated tables, executable model, lemmas and property theorems (bin/mkroot).
import AnonModel.Gen.Consts
import AnonModel.Gen.Ffi
import AnonModel.Gen.PanicSites
import AnonModel.Gen.StoreSrc
import AnonModel.Gen.WireSrc
import AnonModel.Model.Base64
import AnonModel.Model.Convert
import AnonModel.Model.Encode
import AnonModel.Model.Envelope
import AnonModel.Model.FfiGlue
import AnonModel.Model.IdealCL
import AnonModel.Model.Ident
import AnonModel.Model.Interval
import AnonModel.Model.Issuance
import AnonModel.Model.IssuanceW3C
import AnonModel.Model.Json
import AnonModel.Model.Msgpack
import AnonModel.Model.Names
import AnonModel.Model.PanicRegistry
import AnonModel.Model.ProofDoc
import AnonModel.Model.Prover
import AnonModel.Model.Query
import AnonModel.Model.Sha256
import AnonModel.Model.StatusList
import AnonModel.Model.Store
import AnonModel.Model.Tails
import AnonModel.Model.Verifier
import AnonModel.Model.VerifierW3C
import AnonModel.Model.Wire
import AnonModel.Model.WireBn
import AnonModel.Model.WirePv
import AnonModel.Model.WireReq
import AnonModel.Lemmas.Assoc
import AnonModel.Lemmas.Base58
import AnonModel.Lemmas.Base64
import AnonModel.Lemmas.Convert
import AnonModel.Lemmas.Encode
import AnonModel.Lemmas.IdealCL
import AnonModel.Lemmas.Ident
import AnonModel.Lemmas.Interval
import AnonModel.Lemmas.Issuance
import AnonModel.Lemmas.List
import AnonModel.Lemmas.MapM
import AnonModel.Lemmas.Msgpack
import AnonModel.Lemmas.Names
import AnonModel.Lemmas.Prover
import AnonModel.Lemmas.ProverChecks
import AnonModel.Lemmas.ProverDefs
import AnonModel.Lemmas.ProverMaps
import AnonModel.Lemmas.ProverW3C
import AnonModel.Lemmas.Query
import AnonModel.Lemmas.StatusList
import AnonModel.Lemmas.Store
import AnonModel.Lemmas.Tails
import AnonModel.Lemmas.VerifierCore
import AnonModel.Lemmas.VerifierLegacy
import AnonModel.Lemmas.VerifierW3C
import AnonModel.Lemmas.Wire
import AnonModel.Lemmas.WireReq
import AnonModel.Props.C01Legacy
import AnonModel.Props.C01W3C
import AnonModel.Props.C02Legacy
import AnonModel.Props.C02W3C
import AnonModel.Props.C03Env
import AnonModel.Props.C03Legacy
import AnonModel.Props.C03W3C
import AnonModel.Props.C04
import AnonModel.Props.C04Defs
import AnonModel.Props.C05Legacy
import AnonModel.Props.C05W3C
import AnonModel.Props.C06Eval
import AnonModel.Props.C06Legacy
import AnonModel.Props.C06W3C
import AnonModel.Props.C07
import AnonModel.Props.C08
import AnonModel.Props.C09
import AnonModel.Props.C10
import AnonModel.Props.C11
import AnonModel.Props.C11Doc
import AnonModel.Props.C11W3C
import AnonModel.Props.C12Legacy
import AnonModel.Props.C12Sites
import AnonModel.Props.C12W3C
import AnonModel.Props.C13
import AnonModel.Props.C14
import AnonModel.Props.C14Doc
import AnonModel.Props.C14Env
import AnonModel.Props.C15
import AnonModel.Props.C15B64
import AnonModel.Props.C15Bn
import AnonModel.Props.C15Mp
import AnonModel.Props.C15Pv
import AnonModel.Props.C15Req
import AnonModel.Props.C16
import AnonModel.Props.C17
import AnonModel.Props.C17Glue
import AnonModel.Props.C18
import AnonModel.Props.C19
import AnonModel.Props.C19B58
import AnonModel.Props.C20
import AnonModel.Props.GenConstsC15
import AnonModel.Props.GenConstsC16
import AnonModel.Props.GenConstsC17
import AnonModel.Props.GenConstsC18
import AnonModel.Props.GenConstsC19
import AnonModel.Props.GenConstsC20
