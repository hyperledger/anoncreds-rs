import AnonModel.Gen.StoreSrc
import AnonModel.Model.Store
/-!
# C17: how a handle argument is resolved — `load` for required handles, `opt_load` for optional ones

`optLoad` below is `ObjectHandle::opt_load`: handle `0` means "absent" and does not touch the store; any other handle is
resolved exactly like `load`, so a stale, unknown or never-issued handle is an *error*, never "absent". The equalities tie
the two definitions to the function bodies in `/repo` (regenerated on every run); the one-bad-handle probes of
`tools/ffi_check.py` exercise them through real entry points (required and optional positions).
-/
namespace AnonModel.Store

/-- `ObjectHandle::load` on a store content: "Invalid object handle" when absent -/
def loadH (m : Map) (h : Nat) : Except Unit Obj :=
  match mapGet m h with
  | some o => .ok o
  | none => .error ()

/-- `ObjectHandle::opt_load` -/
def optLoad (m : Map) (h : Nat) : Except Unit (Option Obj) :=
  if h = 0 then .ok none else (loadH m h).map some

/-- handle `0` in an optional position means "absent" -/
theorem C17_optional_zero_is_absent (m : Map) : optLoad m 0 = .ok none := rfl

/-- a non-zero handle the store does not hold is refused in an optional position, exactly as in a required one -/
theorem C17_optional_stale_rejected (m : Map) (h : Nat) (h0 : h ≠ 0) (hs : mapGet m h = none) :
    optLoad m h = .error () ∧ loadH m h = .error () := by
  simp [optLoad, loadH, h0, hs, Except.map]

/-- a live handle resolves to its object in both positions -/
theorem C17_optional_live_resolves (m : Map) (h : Nat) (o : Obj) (h0 : h ≠ 0) (hs : mapGet m h = some o) :
    optLoad m h = .ok (some o) ∧ loadH m h = .ok o := by
  simp [optLoad, loadH, h0, hs, Except.map]

/-- never "absent" for a non-zero handle -/
theorem C17_optional_absent_iff (m : Map) (h : Nat) : optLoad m h = .ok none ↔ h = 0 := by
  unfold optLoad
  by_cases h0 : h = 0
  · simp [h0]
  · simp only [h0, if_false, iff_false]
    unfold loadH
    cases mapGet m h <;> simp [Except.map]

example : optLoad [(3, ⟨1, 7⟩)] 3 = .ok (some ⟨1, 7⟩) := rfl
example : optLoad [(3, ⟨1, 7⟩)] 4 = .error () := rfl

end AnonModel.Store

namespace AnonModel.GenConsts
open AnonModel.Gen

/-- `load` and `opt_load` as transcribed above -/
theorem C17_handle_resolution_sources_unchanged :
    storeSrc_load = "FFI_OBJECTS.lock().map_err(|_|err_msg!(\"Errorlockingobjectstore\"))?.get(&self).cloned().ok_or_else(||err_msg!(\"Invalidobjecthandle\"))" ∧
    storeSrc_opt_load = "ifself.0==0{Ok(None)}else{Some(FFI_OBJECTS.lock().map_err(|_|err_msg!(\"Errorlockingobjectstore\"))?.get(&self).cloned().ok_or_else(||err_msg!(\"Invalidobjecthandle\")),).transpose()}" := by
  refine ⟨?_, ?_⟩ <;> rfl

end AnonModel.GenConsts
