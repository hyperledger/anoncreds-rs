import AnonModel.Lemmas.Tails
/-!
# C19 — tails files are content-addressed, readable back, published atomically

Property theorems only (machine invariant and helpers are in `Lemmas/Tails.lean`).

The writer theorems quantify over **all** fault schedules `faults : Nat → Fault` (at every
step: succeed, return an error, or crash; how much buffered data has reached the file; whether
the guard's `remove_file` fails too), all step counts `k` (every reachable state, including
the state a crash leaves behind), all tails lists, all initial directories.

**Partial by nature.** The model is a process-abort model over an abstract directory:
* durability across power loss is not exhibited — the Rust code never calls `fsync`, so after
  a power cut the final name may exist with missing data; the property as stated ("at any
  crash point") is proved for process crashes only;
* the atomicity of `rename(2)` is an assumption (`dirRename` is one step);
* that the streaming `Sha256::update` calls hash the concatenation of their inputs, and that
  `Model/Sha256.lean` is the function the `sha2` crate computes, are tied by the
  correspondence runs only.
-/
namespace AnonModel.Tails

/-- the file content is the two-byte version tag `[0,2]` followed by the tails in generation
order, and (for tails of `size` bytes each) is `2 + size * n` bytes long -/
theorem C19_content_layout (size : Nat) (tails : List (List UInt8))
    (hsz : ∀ t ∈ tails, t.length = size) :
    fileBytes tails = [0, 2] ++ tails.flatten ∧ (fileBytes tails).length = 2 + size * tails.length :=
  ⟨rfl, fileBytes_length size tails hsz⟩

/-- reading tail `k` at offset `size * k + 2` yields the `k`-th generated tail, for every number of
tails and every `k` in range (`read_exact` succeeds) -/
theorem C19_read_back (size : Nat) (tails : List (List UInt8)) (k : Nat) (hk : k < tails.length)
    (hsz : ∀ t ∈ tails, t.length = size) :
    readTail size (fileBytes tails) k = some tails[k] := by
  have h := readSlice_fileBytes size tails k hk hsz
  have hl : tails[k].length = size := hsz _ (List.getElem_mem hk)
  simp [readTail, h, hl]

/-- the same for the raw slice `(bytes.drop (2 + size*k)).take size` -/
theorem C19_read_back_slice (size : Nat) (tails : List (List UInt8)) (k : Nat) (hk : k < tails.length)
    (hsz : ∀ t ∈ tails, t.length = size) :
    ((fileBytes tails).drop (2 + size * k)).take size = tails[k] :=
  readSlice_fileBytes size tails k hk hsz

/-- an index past the end is an error of the reader, not some other tail -/
theorem C19_read_out_of_range (size : Nat) (tails : List (List UInt8)) (k : Nat)
    (hk : tails.length ≤ k) (hpos : 0 < size) (hsz : ∀ t ∈ tails, t.length = size) :
    readTail size (fileBytes tails) k = none := by
  have hl := fileBytes_length size tails hsz
  have : size * tails.length ≤ size * k := Nat.mul_le_mul_left _ hk
  have hd : (fileBytes tails).drop (TAG_SZ + size * k) = [] := List.drop_eq_nil_of_le (by omega)
  simp only [readTail, readSlice, hd, List.take_nil, List.length_nil]
  rw [if_neg (by omega)]

/-- whenever `write` returns `Ok((location, hash))`: `hash` is the base58 SHA-256 of the file
bytes, the last component of `location` is that same string (and its parent the writer's
root), and the directory holds exactly the file bytes under that name -/
theorem C19_name_is_hash (e : Env) (dir0 : Dir) (faults : Nat → Fault) (k : Nat)
    (loc : Location) (h : String) (hs : (runW e faults k (init dir0)).status = .ok loc h) :
    h = base58 (sha256 (fileBytes e.tails)) ∧ loc.file = h ∧ loc.parent = e.root ∧
      dirGet (runW e faults k (init dir0)).dir h = some (fileBytes e.tails) := by
  obtain ⟨h1, h2, h3, _, _⟩ := (inv_run e dir0 faults k).ok loc h hs
  subst h2
  exact ⟨h1, rfl, rfl, h3⟩

/-- the temporary name can never collide with a final name (`.` is not a base58 character) -/
theorem C19_temp_ne_final (e : Env) (tails : List (List UInt8)) : e.temp ≠ fileName tails :=
  tempName_ne_base58 _ _

/-- **atomic publication**: under every fault schedule, in every reachable directory state
(also the one a crash leaves behind) the final name is absent or holds the complete content,
provided that was so initially -/
theorem C19_final_atomic (e : Env) (dir0 : Dir) (faults : Nat → Fault) (k : Nat)
    (h0 : dirGet dir0 (fileName e.tails) = none ∨ dirGet dir0 (fileName e.tails) = some (fileBytes e.tails)) :
    dirGet (runW e faults k (init dir0)).dir (fileName e.tails) = none ∨
    dirGet (runW e faults k (init dir0)).dir (fileName e.tails) = some (fileBytes e.tails) := by
  rcases (inv_run e dir0 faults k).final with h | h
  · rw [h]; exact h0
  · exact Or.inr h

/-- without any assumption on the initial directory: the final name holds what it held before
the call, or the complete content -/
theorem C19_final_untouched_or_complete (e : Env) (dir0 : Dir) (faults : Nat → Fault) (k : Nat) :
    dirGet (runW e faults k (init dir0)).dir (fileName e.tails) = dirGet dir0 (fileName e.tails) ∨
    dirGet (runW e faults k (init dir0)).dir (fileName e.tails) = some (fileBytes e.tails) :=
  (inv_run e dir0 faults k).final

/-- no other name of the directory is ever touched -/
theorem C19_other_names_untouched (e : Env) (dir0 : Dir) (faults : Nat → Fault) (k : Nat)
    (name : String) (h1 : name ≠ e.temp) (h2 : name ≠ fileName e.tails) :
    dirGet (runW e faults k (init dir0)).dir name = dirGet dir0 name :=
  (inv_run e dir0 faults k).frame name h1 h2

/-- in every reachable state the temporary file is absent or holds a prefix of the file bytes
(for a temp name that was free initially) -/
theorem C19_temp_is_prefix (e : Env) (dir0 : Dir) (faults : Nat → Fault) (k : Nat)
    (hfresh : dirGet dir0 e.temp = none) :
    dirGet (runW e faults k (init dir0)).dir e.temp = none ∨
    ∃ c, dirGet (runW e faults k (init dir0)).dir e.temp = some c ∧ c <+: fileBytes e.tails := by
  rcases (inv_run e dir0 faults k).temp with h | h | h
  · rw [h]; exact Or.inl hfresh
  · exact Or.inl h
  · exact Or.inr h

/-- **error path**: if the run returns `Err` (not a crash) and the guard's own `remove_file`
did not fail, the directory is exactly as it was found — every name, in particular … -/
theorem C19_err_leaves_dir_unchanged (e : Env) (dir0 : Dir) (faults : Nat → Fault) (k : Nat)
    (herr : (runW e faults k (init dir0)).status = .err)
    (hrm : ∀ j, j < k → (faults j).removeFails = false) (name : String) :
    dirGet (runW e faults k (init dir0)).dir name = dirGet dir0 name := by
  rcases (inv_run e dir0 faults k).err herr with ⟨j, hj, h⟩ | h
  · rw [hrm j hj] at h; cases h
  · exact h name

/-- … no temporary file of this run is left behind (a temp name that already existed makes
`create_new` fail and is not touched: `C19_err_leaves_dir_unchanged`) -/
theorem C19_no_temp_after_error (e : Env) (dir0 : Dir) (faults : Nat → Fault) (k : Nat)
    (herr : (runW e faults k (init dir0)).status = .err)
    (hrm : ∀ j, j < k → (faults j).removeFails = false)
    (hfresh : dirGet dir0 e.temp = none) :
    dirGet (runW e faults k (init dir0)).dir e.temp = none := by
  rw [C19_err_leaves_dir_unchanged e dir0 faults k herr hrm]; exact hfresh

/-- **success path**: if every step succeeds the run returns `Ok((root/hash, hash))`, the final
name maps to the file bytes and the temporary name is gone -/
theorem C19_success_publishes (e : Env) (dir0 : Dir) (faults : Nat → Fault)
    (hok : ∀ j, (faults j).outcome = .ok) (hfresh : dirGet dir0 e.temp = none) :
    let st := runW e faults (totalSteps e) (init dir0)
    st.status = .ok ⟨e.root, fileName e.tails⟩ (fileName e.tails) ∧
    dirGet st.dir (fileName e.tails) = some (fileBytes e.tails) ∧
    dirGet st.dir e.temp = none := by
  intro st
  obtain ⟨loc, h, hs⟩ := run_ok_final e dir0 faults hok hfresh
  obtain ⟨rfl, rfl, h3, h4, _⟩ := (inv_run e dir0 faults (totalSteps e)).ok _ _ hs
  exact ⟨hs, h3, h4⟩

example : dirGet [] (Env.temp ⟨"/tmp", 7, [[1], [2]]⟩) = none := rfl
example : dirGet [] (fileName [[1], [2]]) = none ∨ dirGet [] (fileName [[1], [2]]) = some (fileBytes [[1], [2]]) :=
  Or.inl rfl

/-- `Err` is reachable (fault at `create`) … -/
example : (runW ⟨"/tmp", 7, [[1], [2]]⟩ (fun _ => ⟨.error, 0, false⟩) 1 (init [])).status = .err := by
  simp [runW, stepW, init, dirGet]

/-- … and later: a failing `header` write runs the guard and removes the temp file -/
example : (runW ⟨"/tmp", 7, [[1], [2]]⟩ (fun j => if j = 1 then ⟨.error, 1, false⟩ else okFault) 2 (init [])).status = .err := by
  simp [runW, stepW, init, dirGet, bufStep, errPath, okFault]

/-- a crash is reachable, leaving a partial temp file -/
example : dirGet (runW ⟨"/tmp", 7, [[1], [2]]⟩ (fun j => if j = 1 then ⟨.crash, 1, false⟩ else okFault) 2 (init [])).dir
    (Env.temp ⟨"/tmp", 7, [[1], [2]]⟩) = some [0] := by
  simp [runW, stepW, init, dirGet, bufStep, okFault, dirPut, dirDel, partialContent, versionTag]

example : (runW ⟨"/tmp", 7, [[1], [2]]⟩ (fun _ => okFault) 7 (init [])).status =
    .ok ⟨"/tmp", fileName [[1], [2]]⟩ (fileName [[1], [2]]) :=
  (C19_success_publishes ⟨"/tmp", 7, [[1], [2]]⟩ [] (fun _ => okFault) (fun _ => rfl) rfl).1

example : readTail 2 (fileBytes [[1, 2], [3, 4]]) 1 = some [3, 4] := by decide +kernel
example : readTail 2 (fileBytes [[1, 2], [3, 4]]) 2 = none := by decide +kernel

/-- if `remove_file` fails as well, the temp file does stay (the hypothesis of
`C19_no_temp_after_error` is needed) -/
example : dirGet (runW ⟨"/tmp", 7, []⟩ (fun j => if j = 1 then ⟨.error, 0, true⟩ else okFault) 2 (init [])).dir
    (Env.temp ⟨"/tmp", 7, []⟩) = some [] := by
  simp [runW, stepW, init, dirGet, bufStep, errPath, okFault, dirPut, dirDel, partialContent, versionTag]

end AnonModel.Tails
