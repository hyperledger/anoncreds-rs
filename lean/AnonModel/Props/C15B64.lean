import AnonModel.Lemmas.Base64
/-!
# C15 — the base64 layer of every W3C proof value is lossless and has one spelling per value

"can be serialised and deserialised … without changing any later outcome, and serialising the deserialised object again
yields the same document … including msgpack/base64 proof values": for the base64url layer this is a theorem for every
byte string and every text.
-/
namespace AnonModel.Base64

/-- **lossless**: every byte string is read back from its text -/
theorem C15_b64_decode_encode (bytes : List Nat) (h : AllLt 256 bytes) : decode (encode bytes) = some bytes := by
  unfold decode encode
  rw [mapM_valOf_map_charOf _ (encodeVals_spec bytes h).1]
  exact (encodeVals_spec bytes h).2

/-- **one spelling per value**: a text that is accepted is the text `encode` writes for the bytes it was read as (so the
document written back is the document read, and no second text stands for the same proof value) -/
theorem C15_b64_encode_decode (s : List Char) (bytes : List Nat) (h : decode s = some bytes) :
    encode bytes = s ∧ AllLt 256 bytes := by
  obtain ⟨ss, hm, hd⟩ := Option.bind_eq_some_iff.mp h
  have ⟨hmap, hlt⟩ := map_charOf_of_mapM_valOf s ss hm
  have ⟨he, hb⟩ := encodeVals_decodeVals ss bytes hlt hd
  exact ⟨by rw [encode, he, hmap], hb⟩

/-- decoding is injective on accepted texts -/
theorem C15_b64_decode_injective (s₁ s₂ : List Char) (bytes : List Nat)
    (h₁ : decode s₁ = some bytes) (h₂ : decode s₂ = some bytes) : s₁ = s₂ := by
  rw [← (C15_b64_encode_decode s₁ bytes h₁).1, ← (C15_b64_encode_decode s₂ bytes h₂).1]

/-- what is refused: a character outside the alphabet (padding `=` included) anywhere -/
theorem C15_b64_rejects_foreign_symbol (s₁ s₂ : List Char) (c : Char) (h : valOf c = none) :
    decode (s₁ ++ c :: s₂) = none := by
  rw [decode, List.mapM_eq_none_iff.mpr ⟨c, by simp, h⟩]; rfl

/-- the length of the text is determined by the number of bytes (no padding) -/
theorem C15_b64_length (bytes : List Nat) : (encode bytes).length = (4 * bytes.length + 2) / 3 := by
  rw [encode, List.length_map]
  fun_induction encodeVals bytes with
  | case1 | case2 | case3 => simp
  | case4 a b c rest ih => simp only [List.length_cons, ih]; omega

/-- the multibase envelope of a proof value is lossless -/
theorem C15_envelope_decode_encode (bytes : List Nat) (h : AllLt 256 bytes) :
    envelopeDecode (envelopeEncode bytes) = some bytes := by
  simp only [envelopeEncode, envelopeDecode]
  exact C15_b64_decode_encode bytes h

theorem envelopeDecode_eq_some_iff {s : List Char} {bytes : List Nat} :
    envelopeDecode s = some bytes ↔ ∃ rest, s = 'u' :: rest ∧ decode rest = some bytes := by
  unfold envelopeDecode
  split
  · simp
  · next hne => exact ⟨nofun, fun ⟨rest, e, _⟩ => (hne rest e).elim⟩

/-- and has one spelling per value: an accepted proof-value text is the text written for its bytes (header included) -/
theorem C15_envelope_encode_decode (s : List Char) (bytes : List Nat) (h : envelopeDecode s = some bytes) :
    envelopeEncode bytes = s := by
  obtain ⟨rest, rfl, h⟩ := envelopeDecode_eq_some_iff.mp h
  rw [envelopeEncode, (C15_b64_encode_decode rest bytes h).1]

/-- a text without the header is refused, whatever follows -/
theorem C15_envelope_header_required (s : List Char) (h : s.head? ≠ some 'u') : envelopeDecode s = none :=
  Option.eq_none_iff_forall_ne_some.mpr fun _ hb =>
    have ⟨_, e, _⟩ := envelopeDecode_eq_some_iff.mp hb; h (e ▸ rfl)

example : encode [77, 97, 110] = "TWFu".toList := by decide +kernel
example : encode [77, 97] = "TWE".toList := by decide +kernel
example : encode [77] = "TQ".toList := by decide +kernel
example : decode "TQ".toList = some [77] := by decide +kernel
example : decode "TR".toList = none := by decide +kernel      -- unused low bits set: refused
example : decode "TQ==".toList = none := by decide +kernel    -- padding: refused
example : decode "T".toList = none := by decide +kernel       -- a lone final symbol
example : decode "-w".toList = some [251] := by decide +kernel
example : decode "-_".toList = none := by decide +kernel

end AnonModel.Base64
