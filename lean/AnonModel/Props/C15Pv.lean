import AnonModel.Model.WirePv
/-!
# C15 — the tagged proof value: written form is read back, and nothing else is read
-/
namespace AnonModel.WirePv

/-- what is written is read back as the same kind -/
theorem C15_pv_de_ser (k : Nat) (h : k = 1 ∨ k = 2 ∨ k = 3) : de (ser k) = some k := by
  rcases h with rfl | rfl | rfl <;> decide

/-- **only the written form is read**: an accepted sequence is exactly `[tag, payload]` with the payload of the kind the
tag names — no third element, no other tag, no payload of another kind -/
theorem C15_pv_ser_de (items : List Item) (k : Nat) (h : de items = some k) :
    items = ser k ∧ (k = 1 ∨ k = 2 ∨ k = 3) := by
  match items, h with
  | .int n :: rest, h =>
    simp only [de, Option.ite_none_right_eq_some] at h
    obtain ⟨hn, h⟩ := h
    match rest, h with
    | .payload k' :: more, h =>
      simp only [Option.ite_none_right_eq_some, Option.some.injEq, List.isEmpty_iff] at h
      obtain ⟨rfl, rfl, rfl⟩ := h
      exact ⟨rfl, by exact_mod_cast hn⟩

/-- a sequence with anything after the payload is refused -/
theorem C15_pv_extra_refused (k : Nat) (x : Item) (more : List Item) : de (ser k ++ x :: more) = none :=
  Option.eq_none_iff_forall_ne_some.mpr fun _ h => nomatch (C15_pv_ser_de _ _ h).1

/-- a payload under the tag of another kind is refused -/
theorem C15_pv_kind_mismatch_refused (t k : Nat) (h : t ≠ k) : de [.int t, .payload k] = none :=
  Option.eq_none_iff_forall_ne_some.mpr fun _ hd => by
    obtain ⟨⟨⟩, _⟩ := C15_pv_ser_de _ _ hd
    exact h rfl

example : de [.int 2, .payload 2] = some 2 := by decide +kernel
example : de [.int 0, .payload 1] = none := by decide +kernel
example : de [.payload 1] = none := by decide +kernel

end AnonModel.WirePv
