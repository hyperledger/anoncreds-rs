import AnonModel.Lemmas.VerifierW3C
import AnonModel.Props.C01W3C
import AnonModel.Props.C08
/-!
# C02 (W3C form) — what an accepted W3C presentation guarantees about non-revocation

The property theorems and the vocabulary of the full claim (`Demands`, `Revocable`,
`NonRevocationProven`). **The full claim of C02 is false for the code** (findings F3 and F4, W3C
form); it is kept visible as the definition `C02_w3c_full` and refuted by two concrete accepted
model presentations:
* `C02_w3c_refuted_no_nrp` (F3) — the request demands non-revocation, the definition is
  revocation-capable, the presentation names a registry and the timestamp of a supplied status list
  inside the interval, but the sub-proof carries **no non-revocation part**: `ProofVerifier::verify`
  silently skips the check and nothing in the service code requires the part to be present;
* `C02_w3c_refuted_strip_regid` (F4) — the same presentation with `rev_reg_id` (and `timestamp`)
  removed from the unauthenticated proof value: `check_credential_non_revoked_interval` is keyed
  on the presentation's registry id, so no interval is enforced at all.

What does hold (`_partial`): a non-revocation part that *is* present — with registry id, timestamp
and a revocation-capable definition — is verified against the accumulator of the last supplied
status list for exactly (registry id, timestamp), with the registry key of the supplied registry
definition, and is about the index the credential was issued with (`C02_w3c_partial`); a named
(registry, timestamp) pair must have a supplied list (`C02_w3c_needs_list`); whenever a registry
id is present the timestamp must exist and lie in the window demanded by each item the credential
serves (`C02_w3c_window`, `C02_w3c_window_timestamp`). `C02_w3c_partial_served` puts these together
in the shape of the full claim: exactly two hypotheses are missing — *the presentation names a
registry* and *the sub-proof has a non-revocation part* — both under the holder's control.
-/
namespace AnonModel.VerifierW3C
open AnonModel.Verifier AnonModel.IdealCL AnonModel
open AnonModel.Interval (Ivl)

/-- an item (requested attribute or predicate) with local interval `loc` demands non-revocation:
it has its own interval or the request has a request-wide one -/
def Demands (r : Request) (loc : Option Ivl) : Prop :=
  loc.isSome = true ∨ r.nonRevoked.isSome = true

/-- the credential comes from a revocation-capable credential definition -/
def Revocable (ctx : Ctx) (c : Cred) : Prop :=
  ∃ cd, ctx.credDefs.lookup c.credDefId = some cd ∧ cd.revocable = true

/-- non-revocation of `c` is proven: the presentation names a registry and a timestamp, the
verifier supplied a status list for exactly that pair, the timestamp lies in the interval the item
(local interval `loc`) demands, and the sub-proof has a non-revocation part whose witness is valid
for the accumulator of that list and for the index the credential was issued with -/
def NonRevocationProven (ctx : Ctx) (r : Request) (loc : Option Ivl) (c : Cred) : Prop :=
  ∃ rid ts n ls l i, c.revRegId = some rid ∧ c.timestamp = some ts ∧ c.sub.nrp = some n ∧
    ctx.lists = some ls ∧ findList ls rid ts = some l ∧ l.acc = some n.acc ∧ n.witOk = true ∧
    c.sub.cred.rev = some (n.regKey, n.idx) ∧
    Interval.C08_demand loc r.nonRevoked rid ctx.override = some i ∧ Interval.valid i ts = true

/-- **THE FULL CLAIM (C02, W3C form) — false for the code, see the two `_refuted` theorems.**
If the verifier returns `Ok(true)`, every item that demands non-revocation is served by a
credential which, when it comes from a revocation-capable definition, is proven non-revoked. -/
def C02_w3c_full : Prop :=
  ∀ (ctx : Ctx) (r : Request) (p : Presentation), verifyW3C ctx r p = .ok true →
    (∀ ra ∈ r.attrs, Demands r ra.2.nonRevoked → ∀ n ∈ ra.2.allNames,
      ∃ c ∈ p.creds, (Reveals c n ∨ HoldsAttr ctx c n) ∧
        (Revocable ctx c → NonRevocationProven ctx r ra.2.nonRevoked c)) ∧
    (∀ rq ∈ r.preds, Demands r rq.2.nonRevoked →
      ∃ c ∈ p.creds, ProvesPred c rq.2 ∧
        (Revocable ctx c → NonRevocationProven ctx r rq.2.nonRevoked c))

/-- **a named (registry, timestamp) pair needs a supplied list**: in an accepted presentation,
for every credential that names both a registry and a timestamp the verifier supplied the registry
definition and a status list for exactly that registry and timestamp (carrying an accumulator) -/
theorem C02_w3c_needs_list {ctx : Ctx} {r : Request} {p : Presentation}
    (h : verifyW3C ctx r p = .ok true) :
    ∀ c ∈ p.creds, ∀ rid ts, c.revRegId = some rid → c.timestamp = some ts →
      ∃ defs ls d l, ctx.revRegDefs = some defs ∧ ctx.lists = some ls ∧ defs.lookup rid = some d ∧
        findList ls rid ts = some l ∧ l ∈ ls ∧ l.regId = some rid ∧ l.ts = some ts ∧
        l.acc.isSome = true := by
  intro c hc rid ts hrid hts
  obtain ⟨-, sctx, hs, -⟩ := ok_cred_facts h hc
  obtain ⟨sc, cd, regKey, acc, _, _, hrr, _⟩ := subCtxOf_some hs
  obtain ⟨defs, ls, d, l, hd, hl, hdl, hfl, _, _⟩ := revocationRegistry_some hrid hts hrr
  obtain ⟨hm, h1, h2⟩ := findList_some hfl
  exact ⟨defs, ls, d, l, hd, hl, hdl, hfl, hm, h1, h2,
    listsOk_acc (verifyW3C_ok_true_iff.mp h).lists hl hm⟩

/-- **a present non-revocation part is verified** (the part of C02 that holds): in an accepted
presentation, for every credential of a revocation-capable definition that names a registry and a
timestamp and whose sub-proof has a non-revocation part `n`: the verifier supplied the registry
definition and a status list for exactly (registry, timestamp); `n`'s witness is valid for the
accumulator of the **last** such list, under the registry key of the supplied definition, for the
index the credential was issued with in that registry. Hence a credential revoked in that list is
not accepted *if it comes with a non-revocation part*. -/
theorem C02_w3c_partial {ctx : Ctx} {r : Request} {p : Presentation}
    (h : verifyW3C ctx r p = .ok true) :
    ∀ c ∈ p.creds, ∀ cd rid ts n, ctx.credDefs.lookup c.credDefId = some cd →
      cd.revocable = true → c.revRegId = some rid → c.timestamp = some ts → c.sub.nrp = some n →
      ∃ defs ls d l, ctx.revRegDefs = some defs ∧ ctx.lists = some ls ∧ defs.lookup rid = some d ∧
        findList ls rid ts = some l ∧ l.acc = some n.acc ∧ n.regKey = d.regKey ∧
        n.witOk = true ∧ c.sub.cred.rev = some (n.regKey, n.idx) := by
  intro c hc cd rid ts n hcd hrevo hrid hts hn
  obtain ⟨-, sctx, hs, -, hnrp⟩ := ok_cred_facts h hc
  exact (nrp_verified (id := c.ident) (verifyW3C_ok_true_iff.mp h).lists hs hcd hrevo hrid hts hn
    hnrp).2

/-- **window**: in an accepted presentation every requested attribute name and every requested
predicate is served by a sound credential that passes `check_credential_non_revoked_interval`
with the item's own interval -/
theorem C02_w3c_window {ctx : Ctx} {r : Request} {p : Presentation}
    (h : verifyW3C ctx r p = .ok true) :
    (∀ ra ∈ r.attrs, ∀ n ∈ ra.2.allNames, ∃ c ∈ p.creds,
      (Reveals c n ∨ HoldsAttr ctx c n) ∧ CredSound ctx c ∧
      Interval.checkW3C ra.2.nonRevoked r.nonRevoked c.revRegId ctx.override c.timestamp = true) ∧
    (∀ rq ∈ r.preds, ∃ c ∈ p.creds, ProvesPred c rq.2 ∧ CredSound ctx c ∧
      Interval.checkW3C rq.2.nonRevoked r.nonRevoked c.revRegId ctx.override c.timestamp = true) := by
  constructor
  · intro ra hra n hn
    obtain ⟨c, hc, hserve, hcond, hs⟩ := C01_w3c_attribute_served h ra hra n hn
    exact ⟨c, hc, hserve, hs, (conditionsOk_iff.mp hcond).2⟩
  · intro rq hrq
    obtain ⟨c, hc, hp, hcond, hs⟩ := C01_w3c_predicates h rq hrq
    exact ⟨c, hc, hp, hs, (conditionsOk_iff.mp hcond).2⟩

/-- what passing the interval check means when the presentation names a registry and the item
demands non-revocation: a timestamp is present and lies in the demanded window (`C08_demand`:
own interval else request-wide, lower bound overridden) -/
theorem C02_w3c_window_timestamp {loc glob : Option Ivl} {rid : String}
    {ovr : Option Interval.Overrides} {ts : Option Nat}
    (h : Interval.checkW3C loc glob (some rid) ovr ts = true)
    (hdem : loc.isSome = true ∨ glob.isSome = true) :
    ∃ t i, ts = some t ∧ Interval.C08_demand loc glob rid ovr = some i ∧
      Interval.valid i t = true := by
  rw [Interval.C08_w3c_exact] at h
  obtain ⟨i, hd⟩ := Option.isSome_iff_exists.mp
    ((Interval.C08_demand_isSome loc glob rid ovr).trans (Bool.or_eq_true_iff.mpr hdem))
  obtain ⟨t, hts, hv⟩ := (Interval.checkTs_some_iff i ts).mp (hd ▸ h)
  exact ⟨t, i, hts, hd, hv⟩

/-- the pieces put together for one credential that passed an item's conditions: **if** the
presentation names a registry for it **and** its sub-proof has a non-revocation part, then (for a
revocation-capable definition and an item that demands non-revocation) it is proven non-revoked -/
theorem C02_w3c_proven_of {ctx : Ctx} {r : Request} {p : Presentation}
    (h : verifyW3C ctx r p = .ok true) {c : Cred} (hc : c ∈ p.creds) {loc : Option Ivl}
    (hwin : Interval.checkW3C loc r.nonRevoked c.revRegId ctx.override c.timestamp = true)
    (hdem : Demands r loc) (hrev : Revocable ctx c)
    (hrid : c.revRegId.isSome = true) (hnrp : c.sub.nrp.isSome = true) :
    NonRevocationProven ctx r loc c := by
  obtain ⟨rid, hrid'⟩ := Option.isSome_iff_exists.mp hrid
  obtain ⟨n, hn⟩ := Option.isSome_iff_exists.mp hnrp
  obtain ⟨cd, hcd, hrevo⟩ := hrev
  rw [hrid'] at hwin
  obtain ⟨t, i, hts, hd, hv⟩ := C02_w3c_window_timestamp hwin hdem
  obtain ⟨defs, ls, d, l, _, hl, _, hfl, ha, _, hw, hr⟩ :=
    C02_w3c_partial h c hc cd rid t n hcd hrevo hrid' hts hn
  exact ⟨rid, t, n, ls, l, i, hrid', hts, hn, hl, hfl, ha, hw, hr, hd, hv⟩

/-- **the full claim with its two missing hypotheses made explicit**: same shape as
`C02_w3c_full`, but non-revocation is guaranteed only for a serving credential for which the
presentation names a registry (`c.revRegId.isSome` — missing: F4) and whose sub-proof has a
non-revocation part (`c.sub.nrp.isSome` — missing: F3) -/
theorem C02_w3c_partial_served {ctx : Ctx} {r : Request} {p : Presentation}
    (h : verifyW3C ctx r p = .ok true) :
    (∀ ra ∈ r.attrs, Demands r ra.2.nonRevoked → ∀ n ∈ ra.2.allNames,
      ∃ c ∈ p.creds, (Reveals c n ∨ HoldsAttr ctx c n) ∧
        (Revocable ctx c → c.revRegId.isSome = true → c.sub.nrp.isSome = true →
          NonRevocationProven ctx r ra.2.nonRevoked c)) ∧
    (∀ rq ∈ r.preds, Demands r rq.2.nonRevoked →
      ∃ c ∈ p.creds, ProvesPred c rq.2 ∧
        (Revocable ctx c → c.revRegId.isSome = true → c.sub.nrp.isSome = true →
          NonRevocationProven ctx r rq.2.nonRevoked c)) := by
  obtain ⟨hA, hP⟩ := C02_w3c_window h
  constructor
  · intro ra hra hdem n hn
    obtain ⟨c, hc, hserve, _, hwin⟩ := hA ra hra n hn
    exact ⟨c, hc, hserve, fun hrev hrid hnrp => C02_w3c_proven_of h hc hwin hdem hrev hrid hnrp⟩
  · intro rq hrq hdem
    obtain ⟨c, hc, hserve, _, hwin⟩ := hP rq hrq
    exact ⟨c, hc, hserve, fun hrev hrid hnrp => C02_w3c_proven_of h hc hwin hdem hrev hrid hnrp⟩

/-! ### the refutations (findings F3, F4 in W3C form) -/

/-- F3 witness is accepted: request-wide interval `[5, 20]`, revocation-capable definition,
registry `rr` and timestamp `10` of a supplied list named, credential issued with revocation
(index 4) — and **no non-revocation part** in the sub-proof -/
theorem C02_w3c_no_nrp_accepted :
    verifyW3C DemoNoNrp.ctx DemoNoNrp.req DemoNoNrp.pres = .ok true ∧
    DemoNoNrp.req.nonRevoked = some ⟨some 5, some 20⟩ ∧
    DemoNoNrp.cred.revRegId = some "rr" ∧ DemoNoNrp.cred.timestamp = some 10 ∧
    DemoNoNrp.cred.sub.cred.rev = some (9, 4) ∧ DemoNoNrp.cred.sub.nrp = none := by
  refine ⟨by decide +kernel, rfl, rfl, rfl, rfl, rfl⟩

/-- **refuted (F3)**: the full claim fails on `DemoNoNrp` — the only credential of the accepted
presentation serves the requested predicate, its definition is revocation-capable, the request
demands non-revocation, and there is no non-revocation part -/
theorem C02_w3c_refuted_no_nrp : ¬ C02_w3c_full := by
  intro hfull
  obtain ⟨c, hc, _, hnr⟩ :=
    (hfull _ _ _ C02_w3c_no_nrp_accepted.1).2 _ (List.mem_cons_self ..) (Or.inr rfl)
  have hc' : c = DemoNoNrp.cred := by simpa [DemoNoNrp.pres] using hc
  subst hc'
  obtain ⟨_, _, n, _, _, _, _, _, hn, _⟩ := hnr ⟨_, rfl, rfl⟩
  cases hn

/-- F4 witness is accepted: as before but the presentation names neither registry nor timestamp -/
theorem C02_w3c_strip_regid_accepted :
    verifyW3C DemoNoNrp.ctx DemoNoNrp.req DemoStripRegId.pres = .ok true ∧
    DemoNoNrp.req.nonRevoked = some ⟨some 5, some 20⟩ ∧
    DemoStripRegId.cred.revRegId = none ∧ DemoStripRegId.cred.timestamp = none ∧
    DemoStripRegId.cred.sub.cred.rev = some (9, 4) := by
  refine ⟨by decide +kernel, rfl, rfl, rfl, rfl⟩

/-- **refuted (F4)**: the full claim fails on `DemoStripRegId` — without `rev_reg_id` the
request-wide interval is not enforced for the (revocation-capable) credential -/
theorem C02_w3c_refuted_strip_regid : ¬ C02_w3c_full := by
  intro hfull
  obtain ⟨c, hc, _, hnr⟩ :=
    (hfull _ _ _ C02_w3c_strip_regid_accepted.1).2 _ (List.mem_cons_self ..) (Or.inr rfl)
  have hc' : c = DemoStripRegId.cred := by simpa [DemoStripRegId.pres] using hc
  subst hc'
  obtain ⟨_, _, _, _, _, _, hrid, _⟩ := hnr ⟨_, rfl, rfl⟩
  simp [DemoStripRegId.cred] at hrid

set_option maxRecDepth 100000 in
example : verifyW3C DemoNoNrp.ctx DemoNoNrp.req DemoNrp.pres = .ok true ∧
    DemoNrp.cred.revRegId = some "rr" ∧ DemoNrp.cred.timestamp = some 10 ∧
    DemoNrp.cred.sub.nrp = some ⟨9, 4, 3, true⟩ ∧
    DemoNoNrp.ctx.credDefs.lookup DemoNrp.cred.credDefId = some ⟨"I", 1, true⟩ := by
  refine ⟨by decide +kernel, rfl, rfl, rfl, rfl⟩

set_option maxRecDepth 100000 in
/-- and the verification of the part is effective: a witness for another accumulator value
(stale revocation state) is not accepted -/
example :
    verifyW3C DemoNoNrp.ctx DemoNoNrp.req
      { DemoNrp.pres with creds := [{ DemoNrp.cred with sub := { DemoNrp.sub with
          nrp := some ⟨9, 4, 2, true⟩ } }] } = .ok false := by decide +kernel

end AnonModel.VerifierW3C
