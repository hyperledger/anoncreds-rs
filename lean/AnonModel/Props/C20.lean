import AnonModel.Lemmas.Encode
import AnonModel.Lemmas.Ident
/-!
# C20 — constructors and validation accept exactly the documented identifier grammar

The grammar is written down here declaratively (explicit decompositions `cs = a ++ ":2:" ++ b …`
with side conditions on the pieces), independently of the recognisers of `Model/Ident.lean`
(left-to-right scan for URIs, split on `':'` and component checks for the legacy forms).
The theorems say that each recogniser accepts exactly its grammar, for every string, and
then characterise `X::new` / `validate`, `Schema::validate` and `CredentialRequest::validate`.

Character classes are core's ASCII-only predicates: `Char.isAlpha` = `[a-zA-Z]`,
`Char.isDigit` = `[0-9]`, `Char.isAlphanum` = `[a-zA-Z0-9]`.
-/
namespace AnonModel.Ident

/-- scheme characters after the first: ASCII letters, digits, `+`, `-`, `.` -/
def IsSchemeChar (c : Char) : Prop := c.isAlphanum = true ∨ c = '+' ∨ c = '-' ∨ c = '.'

/-- **URI** (as far as the library checks): an ASCII letter, then scheme characters, then
`':'`, then a non-empty rest without line feed. Scheme characters exclude `':'`, so
`h :: t` is exactly the part before the first `':'`; the rest is otherwise arbitrary
(spaces, further colons, non-ASCII, control characters other than `'\n'`). -/
def IsUri (cs : List Char) : Prop :=
  ∃ h t rest, cs = h :: t ++ ':' :: rest ∧ h.isAlpha = true ∧ (∀ c ∈ t, IsSchemeChar c) ∧
    rest ≠ [] ∧ '\n' ∉ rest

/-- base58 alphabet: ASCII letters and digits except `0`, `O`, `I`, `l` -/
def IsBase58 (c : Char) : Prop := c.isAlphanum = true ∧ c ≠ '0' ∧ c ≠ 'O' ∧ c ≠ 'I' ∧ c ≠ 'l'

/-- **legacy DID**: 21 or 22 base58 characters -/
def IsLegacyDid (cs : List Char) : Prop :=
  (cs.length = 21 ∨ cs.length = 22) ∧ ∀ c ∈ cs, IsBase58 c

/-- a name or tag: non-empty, no `':'` (anything else, including `'\n'`, is allowed) -/
def IsName (cs : List Char) : Prop := cs ≠ [] ∧ ':' ∉ cs

/-- a version: non-empty, digits and dots in any arrangement (`"."`, `"1..2"` qualify) -/
def IsVersion (cs : List Char) : Prop := cs ≠ [] ∧ ∀ c ∈ cs, c.isDigit = true ∨ c = '.'

/-- a ledger sequence number: digits, not starting with `0` -/
def IsSeqNo (cs : List Char) : Prop :=
  ∃ h t, cs = h :: t ∧ h.isDigit = true ∧ h ≠ '0' ∧ ∀ c ∈ t, c.isDigit = true

/-- the issuer part of a schema id embedded in a credential-definition id: 21 or 22 ASCII
letters or digits (*not* restricted to base58) -/
def IsAlnumDid (cs : List Char) : Prop :=
  (cs.length = 21 ∨ cs.length = 22) ∧ ∀ c ∈ cs, c.isAlphanum = true

/-- **legacy schema id**: `DID:2:NAME:VERSION` -/
def IsLegacySchemaId (cs : List Char) : Prop :=
  ∃ did name ver, cs = did ++ ":2:".toList ++ name ++ ":".toList ++ ver ∧
    IsLegacyDid did ∧ IsName name ∧ IsVersion ver

/-- the schema reference inside a credential-definition id: a sequence number, or a
schema id whose issuer part is merely alphanumeric -/
def IsSchemaRef (cs : List Char) : Prop :=
  IsSeqNo cs ∨
  ∃ d name ver, cs = d ++ ":2:".toList ++ name ++ ":".toList ++ ver ∧
    IsAlnumDid d ∧ IsName name ∧ IsVersion ver

/-- **legacy credential-definition id**: `DID:3:CL:SCHEMAREF:TAG`, the tag possibly
empty (but its `':'` present) -/
def IsLegacyCredDefId (cs : List Char) : Prop :=
  ∃ did sref tag, cs = did ++ ":3:CL:".toList ++ sref ++ ":".toList ++ tag ∧
    IsLegacyDid did ∧ IsSchemaRef sref ∧ ':' ∉ tag

/-- **legacy revocation-registry-definition id**:
`DID:4:DID:3:CL:SCHEMAREF:TAG:CL_ACCUM:TAG2`, `TAG` non-empty, `TAG2` possibly empty -/
def IsLegacyRevRegDefId (cs : List Char) : Prop :=
  ∃ did did2 sref tag tag2,
    cs = did ++ ":4:".toList ++ did2 ++ ":3:CL:".toList ++ sref ++ ":".toList ++ tag ++
      ":CL_ACCUM:".toList ++ tag2 ∧
    IsLegacyDid did ∧ IsLegacyDid did2 ∧ IsSchemaRef sref ∧ IsName tag ∧ ':' ∉ tag2

/-- the legacy form belonging to each identifier type -/
def Legacy : IdKind → List Char → Prop
  | .issuer => IsLegacyDid
  | .schema => IsLegacySchemaId
  | .credDef => IsLegacyCredDefId
  | .revRegDef => IsLegacyRevRegDefId

/-! ### recognisers ↔ grammar, on character lists -/

private theorem did_iff (cs : List Char) : isDidL cs = true ↔ IsLegacyDid cs := by
  simp [isDidL, isBase58_iff, IsLegacyDid, IsBase58]
private theorem alnumDid_iff (cs : List Char) : isAlnumDidL cs = true ↔ IsAlnumDid cs := by
  simp [isAlnumDidL, isAlnum_iff, IsAlnumDid]
private theorem version_iff (cs : List Char) : isVersionL cs = true ↔ IsVersion cs := by
  cases cs <;> simp [isVersionL, isVersionChar_iff, IsVersion]
private theorem seqNo_iff (cs : List Char) : isSeqNoL cs = true ↔ IsSeqNo cs := by
  cases cs with
  | nil => simp [isSeqNoL, IsSeqNo]
  | cons c cs => simp [isSeqNoL, inRange19_iff, isDigit09_iff, and_assoc, IsSeqNo]

private theorem noColon_of_forall {P : Char → Prop} (hp : ¬ P ':') {cs : List Char}
    (h : ∀ c ∈ cs, P c) : ':' ∉ cs :=
  fun hm => hp (h _ hm)

private theorem IsLegacyDid.noColon {cs : List Char} (h : IsLegacyDid cs) : ':' ∉ cs :=
  noColon_of_forall (fun h => absurd h.1 (by decide)) h.2
private theorem IsAlnumDid.noColon {cs : List Char} (h : IsAlnumDid cs) : ':' ∉ cs :=
  noColon_of_forall (by decide) h.2
private theorem IsVersion.noColon {cs : List Char} (h : IsVersion cs) : ':' ∉ cs :=
  noColon_of_forall (by decide) h.2
private theorem IsSeqNo.noColon {cs : List Char} : IsSeqNo cs → ':' ∉ cs := by
  rintro ⟨h, t, rfl, hh, _, ht⟩ hm
  rcases List.mem_cons.mp hm with rfl | hm
  · exact absurd hh (by decide)
  · exact absurd (ht _ hm) (by decide)

private theorem isUriL_iff (cs : List Char) : isUriL cs = true ↔ IsUri cs := by
  cases cs with
  | nil => simp [isUriL, IsUri]
  | cons c cs =>
    simp only [isUriL, Bool.and_eq_true, isLetter_iff, uriTail_iff, isSchemeChar_iff, IsUri, IsSchemeChar,
      List.cons_append, List.cons.injEq]
    exact ⟨fun ⟨hc, t, rest, e, h⟩ => ⟨c, t, rest, ⟨rfl, e⟩, hc, h⟩,
      fun ⟨_, t, rest, ⟨rfl, e⟩, hc, h⟩ => ⟨hc, t, rest, e, h⟩⟩

section
-- the class lemmas and the evaluation of `splitColon` on a `':'`-joined list, for the three proofs below;
-- `splitColon_noColon` fits every `splitColon _` and is tried last, so that only the final field reaches it
attribute [local simp] did_iff alnumDid_iff version_iff seqNo_iff isNameL_iff splitColon consHead
  splitColon_append
attribute [local simp low] splitColon_noColon

private theorem isLegacySchemaIdL_iff (cs : List Char) :
    isLegacySchemaIdL cs = true ↔ IsLegacySchemaId cs := by
  constructor
  · intro h
    unfold isLegacySchemaIdL at h
    split at h
    · rename_i did k name ver heq
      simp only [Bool.and_eq_true, beq_iff_eq, did_iff, version_iff, isNameL_iff] at h
      obtain ⟨⟨⟨hd, rfl⟩, hn⟩, hv⟩ := h
      obtain ⟨_, hnc, rfl⟩ := splitColon_eq_iff.mp heq
      exact ⟨did, name, ver, by simp [join], hd, ⟨hn, hnc name (by simp)⟩, hv⟩
    · simp at h
  · rintro ⟨did, name, ver, rfl, hd, ⟨hn, hnc⟩, hv⟩
    simp [isLegacySchemaIdL, hd.noColon, hnc, hv.noColon, hd, hn, hv]

private theorem isLegacyCredDefIdL_iff (cs : List Char) :
    isLegacyCredDefIdL cs = true ↔ IsLegacyCredDefId cs := by
  constructor
  · intro h
    unfold isLegacyCredDefIdL at h
    split at h
    · rename_i did k cl seq tag heq
      simp only [Bool.and_eq_true, beq_iff_eq, did_iff, seqNo_iff] at h
      obtain ⟨⟨⟨hd, rfl⟩, rfl⟩, hseq⟩ := h
      obtain ⟨_, hnc, rfl⟩ := splitColon_eq_iff.mp heq
      exact ⟨did, seq, tag, by simp [join], hd, .inl hseq, hnc tag (by simp)⟩
    · rename_i did k cl sdid k2 name ver tag heq
      simp only [Bool.and_eq_true, beq_iff_eq, did_iff, alnumDid_iff, version_iff, isNameL_iff] at h
      obtain ⟨⟨⟨⟨⟨⟨hd, rfl⟩, rfl⟩, hsd⟩, rfl⟩, hn⟩, hv⟩ := h
      obtain ⟨_, hnc, rfl⟩ := splitColon_eq_iff.mp heq
      refine ⟨did, sdid ++ ":2:".toList ++ name ++ ":".toList ++ ver, tag, by simp [join],
        hd, .inr ⟨sdid, name, ver, rfl, hsd, ⟨hn, hnc name (by simp)⟩, hv⟩, hnc tag (by simp)⟩
    · simp at h
  · rintro ⟨did, sref, tag, rfl, hd, hsr, htag⟩
    rcases hsr with hseq | ⟨sdid, name, ver, rfl, hsd, ⟨hn, hnc⟩, hv⟩
    · simp [isLegacyCredDefIdL, hd.noColon, hseq.noColon, htag, hd, hseq]
    · simp [isLegacyCredDefIdL, hd.noColon, hsd.noColon, hnc, hv.noColon, htag, hd, hsd, hn, hv]

private theorem isLegacyRevRegDefIdL_iff (cs : List Char) :
    isLegacyRevRegDefIdL cs = true ↔ IsLegacyRevRegDefId cs := by
  constructor
  · intro h
    unfold isLegacyRevRegDefIdL at h
    split at h
    · rename_i did k did2 k3 cl seq tag acc tag2 heq
      simp only [Bool.and_eq_true, beq_iff_eq, did_iff, seqNo_iff, isNameL_iff] at h
      obtain ⟨⟨⟨⟨⟨⟨⟨hd, rfl⟩, hd2⟩, rfl⟩, rfl⟩, hseq⟩, ht⟩, rfl⟩ := h
      obtain ⟨_, hnc, rfl⟩ := splitColon_eq_iff.mp heq
      exact ⟨did, did2, seq, tag, tag2, by simp [join], hd, hd2, .inl hseq,
        ⟨ht, hnc tag (by simp)⟩, hnc tag2 (by simp)⟩
    · rename_i did k did2 k3 cl sdid k2 name ver tag acc tag2 heq
      simp only [Bool.and_eq_true, beq_iff_eq, did_iff, alnumDid_iff, version_iff, isNameL_iff] at h
      obtain ⟨⟨⟨⟨⟨⟨⟨⟨⟨⟨hd, rfl⟩, hd2⟩, rfl⟩, rfl⟩, hsd⟩, rfl⟩, hn⟩, hv⟩, ht⟩, rfl⟩ := h
      obtain ⟨_, hnc, rfl⟩ := splitColon_eq_iff.mp heq
      refine ⟨did, did2, sdid ++ ":2:".toList ++ name ++ ":".toList ++ ver, tag, tag2,
        by simp [join], hd, hd2, .inr ⟨sdid, name, ver, rfl, hsd, ⟨hn, hnc name (by simp)⟩, hv⟩,
        ⟨ht, hnc tag (by simp)⟩, hnc tag2 (by simp)⟩
    · simp at h
  · rintro ⟨did, did2, sref, tag, tag2, rfl, hd, hd2, hsr, ⟨ht, htnc⟩, htag2⟩
    rcases hsr with hseq | ⟨sdid, name, ver, rfl, hsd, ⟨hn, hnc⟩, hv⟩
    · simp [isLegacyRevRegDefIdL, hd.noColon, hd2.noColon, hseq.noColon, htnc, htag2, hd, hd2,
        hseq, ht]
    · simp [isLegacyRevRegDefIdL, hd.noColon, hd2.noColon, hsd.noColon, hnc, hv.noColon, htnc,
        htag2, hd, hd2, hsd, hn, hv, ht]

end

/-- `URI_IDENTIFIER` matches a string iff it is: ASCII letter, scheme characters, `':'`,
non-empty rest without line feed. -/
theorem C20_uri_iff (s : String) : isUri s = true ↔ IsUri s.toList := isUriL_iff _

/-- `LEGACY_DID_IDENTIFIER` matches a string iff it is 21 or 22 base58 characters. -/
theorem C20_legacyDid_iff (s : String) : isLegacyDid s = true ↔ IsLegacyDid s.toList :=
  did_iff _

/-- `LEGACY_SCHEMA_IDENTIFIER` matches a string iff it is `DID:2:NAME:VERSION`. -/
theorem C20_legacySchema_iff (s : String) :
    isLegacySchemaId s = true ↔ IsLegacySchemaId s.toList := isLegacySchemaIdL_iff _

/-- `LEGACY_CRED_DEF_IDENTIFIER` matches a string iff it is `DID:3:CL:SCHEMAREF:TAG` with
`SCHEMAREF` a sequence number or an (alphanumeric-issuer) schema id and `TAG` possibly empty. -/
theorem C20_legacyCredDef_iff (s : String) :
    isLegacyCredDefId s = true ↔ IsLegacyCredDefId s.toList := isLegacyCredDefIdL_iff _

/-- `LEGACY_REV_REG_DEF_IDENTIFIER` matches a string iff it is
`DID:4:DID:3:CL:SCHEMAREF:TAG:CL_ACCUM:TAG2` with `TAG` non-empty and `TAG2` possibly empty. -/
theorem C20_legacyRevReg_iff (s : String) :
    isLegacyRevRegDefId s = true ↔ IsLegacyRevRegDefId s.toList := isLegacyRevRegDefIdL_iff _

/-- `X::new(s)` succeeds / `validate` passes, for each of the four identifier types, iff
`s` is a URI or the legacy form of that type. -/
theorem C20_id_valid_iff (k : IdKind) (s : String) :
    idValid k s = true ↔ IsUri s.toList ∨ Legacy k s.toList := by
  cases k <;>
    simp only [idValid, isLegacy, Legacy, Bool.or_eq_true, C20_uri_iff, C20_legacyDid_iff,
      C20_legacySchema_iff, C20_legacyCredDef_iff, C20_legacyRevReg_iff]

/-- the two alternatives never overlap for issuer ids (a legacy DID has no `':'`); they do
overlap for the three other types — see the examples at the end. -/
theorem C20_legacyDid_not_uri {cs : List Char} (h : IsLegacyDid cs) : ¬ IsUri cs := by
  rintro ⟨c, t, rest, rfl, _⟩
  exact h.noColon (by simp)

/-- `AttributeNames::validate` passes iff there are between 1 and 125 names, all distinct. -/
theorem C20_attr_names_valid_iff (names : List String) :
    attrNamesValid names = true ↔ 1 ≤ names.length ∧ names.length ≤ 125 ∧ names.Nodup := by
  have hf : names.Nodup ↔ allFresh [] names = true := by simp [allFresh_iff]
  rw [hf, attrNamesValid]
  cases allFresh [] names <;> cases names <;> simp [maxAttributesCount]

/-- `Schema::validate` passes (and `create_schema` returns a schema) iff the issuer id is
valid and there are between 1 and 125 distinct attribute names. Schema name and version
are unconstrained. -/
theorem C20_schema_valid_iff (iss : String) (names : List String) :
    schemaValid iss names = true ↔
      idValid .issuer iss = true ∧ 1 ≤ names.length ∧ names.length ≤ 125 ∧ names.Nodup := by
  unfold schemaValid
  cases h : idValid .issuer iss <;> simp [C20_attr_names_valid_iff]

/-- `CredentialRequest::validate` passes iff the credential-definition id is valid and
either entropy is given without a prover DID, or no entropy is given, the
credential-definition id matches the *legacy* pattern (whether or not it is also a URI),
and a prover DID is given that is a URI or a legacy DID. -/
theorem C20_credreq_valid_iff (entropy proverDid : Option String) (cd : String) :
    credReqValid entropy proverDid cd = true ↔
      idValid .credDef cd = true ∧
      ((entropy.isSome = true ∧ proverDid = none) ∨
       (entropy = none ∧ IsLegacyCredDefId cd.toList ∧
          ∃ d, proverDid = some d ∧ (IsUri d.toList ∨ IsLegacyDid d.toList))) := by
  unfold credReqValid
  simp only [← C20_legacyCredDef_iff, ← C20_uri_iff, ← C20_legacyDid_iff]
  cases hv : idValid .credDef cd
  · simp
  · cases entropy <;> cases proverDid <;> simp

/-- in particular an accepted request carries exactly one of entropy and prover DID -/
theorem C20_credreq_exactly_one {entropy proverDid : Option String} {cd : String}
    (h : credReqValid entropy proverDid cd = true) :
    (entropy.isSome = true ∧ proverDid.isSome = false) ∨
      (entropy.isSome = false ∧ proverDid.isSome = true) := by
  rcases ((C20_credreq_valid_iff _ _ _).mp h).2 with ⟨he, rfl⟩ | ⟨rfl, _, d, rfl, _⟩
  · exact Or.inl ⟨he, rfl⟩
  · exact Or.inr ⟨rfl, rfl⟩

-- URIs. The literal is first turned into its character list (`String.toList_ofList`): left to
-- itself the kernel would run the UTF-8 decoder on `"…".toList`, which is what is slow.
example : IsUri "did:web:x".toList := by
  rw [String.toList_ofList, ← isUriL_iff]; decide +kernel
example : IsUri "mock:uri".toList := by
  rw [String.toList_ofList, ← isUriL_iff]; decide +kernel
example : IsUri "a+-.9: ".toList := by
  rw [String.toList_ofList, ← isUriL_iff]; decide +kernel
example : IsUri "a:::".toList := by
  rw [String.toList_ofList, ← isUriL_iff]; decide +kernel
example : ¬ IsUri "::::".toList := by
  rw [String.toList_ofList, ← isUriL_iff]; decide +kernel
example : ¬ IsUri "a:".toList := by
  rw [String.toList_ofList, ← isUriL_iff]; decide +kernel
example : ¬ IsUri "a:\n".toList := by
  rw [String.toList_ofList, ← isUriL_iff]; decide +kernel
example : ¬ IsUri "a:b\n".toList := by
  rw [String.toList_ofList, ← isUriL_iff]; decide +kernel
example : ¬ IsUri "1a:b".toList := by
  rw [String.toList_ofList, ← isUriL_iff]; decide +kernel
example : ¬ IsUri "a_b:c".toList := by
  rw [String.toList_ofList, ← isUriL_iff]; decide +kernel
example : ¬ IsUri "é:c".toList := by
  rw [String.toList_ofList, ← isUriL_iff]; decide +kernel
example : ¬ IsUri "NcYxiDXkpYi6ov5FcYDi1e".toList := by
  rw [String.toList_ofList, ← isUriL_iff]; decide +kernel

-- legacy DIDs: 21 and 22 accepted, 20 and 23 rejected, `0` rejected
example : IsLegacyDid "NcYxiDXkpYi6ov5FcYDi1e".toList := by
  rw [String.toList_ofList, ← did_iff]; decide +kernel
example : IsLegacyDid "NcYxiDXkpYi6ov5FcYDi1".toList := by
  rw [String.toList_ofList, ← did_iff]; decide +kernel
example : ¬ IsLegacyDid "NcYxiDXkpYi6ov5FcYDi".toList := by
  rw [String.toList_ofList, ← did_iff]; decide +kernel
example : ¬ IsLegacyDid "NcYxiDXkpYi6ov5FcYDi1e2".toList := by
  rw [String.toList_ofList, ← did_iff]; decide +kernel
example : ¬ IsLegacyDid "NcYxiDXkpYi6ov5FcYDi10".toList := by
  rw [String.toList_ofList, ← did_iff]; decide +kernel
example : ¬ IsLegacyDid "NcYxiDXkpYi6ov5FcYDi1e\n".toList := by
  rw [String.toList_ofList, ← did_iff]; decide +kernel

example : IsLegacySchemaId "DXoTtQJNtXtiwWaZAK3rB1:2:example:1.0".toList := by
  rw [String.toList_ofList, ← isLegacySchemaIdL_iff]; decide +kernel
example : IsLegacySchemaId "DXoTtQJNtXtiwWaZAK3rB1:2:a b\n:..".toList := by
  rw [String.toList_ofList, ← isLegacySchemaIdL_iff]; decide +kernel
example : ¬ IsLegacySchemaId "DXoTtQJNtXtiwWaZAK3rB1:3:example:1.0".toList := by
  rw [String.toList_ofList, ← isLegacySchemaIdL_iff]; decide +kernel
example : ¬ IsLegacySchemaId "DXoTtQJNtXtiwWaZAK3rB1:2::1.0".toList := by
  rw [String.toList_ofList, ← isLegacySchemaIdL_iff]; decide +kernel
example : ¬ IsLegacySchemaId "DXoTtQJNtXtiwWaZAK3rB1:2:example:1.0a".toList := by
  rw [String.toList_ofList, ← isLegacySchemaIdL_iff]; decide +kernel

example : IsLegacyCredDefId "DXoTtQJNtXtiwWaZAK3rB1:3:CL:98153:default".toList := by
  rw [String.toList_ofList, ← isLegacyCredDefIdL_iff]; decide +kernel
example : IsLegacyCredDefId "DXoTtQJNtXtiwWaZAK3rB1:3:CL:98153:".toList := by
  rw [String.toList_ofList, ← isLegacyCredDefIdL_iff]; decide +kernel
example : IsLegacyCredDefId
    "DXoTtQJNtXtiwWaZAK3rB1:3:CL:DXoTtQJNtXtiwWaZAK3rB1:2:example:1.0:default".toList := by
  rw [String.toList_ofList, ← isLegacyCredDefIdL_iff]; decide +kernel
example : IsLegacyCredDefId
    "DXoTtQJNtXtiwWaZAK3rB1:3:CL:0OIl0OIl0OIl0OIl0OIl00:2:example:1.0:".toList := by
  rw [String.toList_ofList, ← isLegacyCredDefIdL_iff]; decide +kernel
example : ¬ IsLegacyCredDefId "DXoTtQJNtXtiwWaZAK3rB1:3:CL:98153".toList := by
  rw [String.toList_ofList, ← isLegacyCredDefIdL_iff]; decide +kernel
example : ¬ IsLegacyCredDefId "DXoTtQJNtXtiwWaZAK3rB1:3:CL:098153:default".toList := by
  rw [String.toList_ofList, ← isLegacyCredDefIdL_iff]; decide +kernel
example : ¬ IsLegacyCredDefId "DXoTtQJNtXtiwWaZAK3rB1:4:CL:98153:default".toList := by
  rw [String.toList_ofList, ← isLegacyCredDefIdL_iff]; decide +kernel
example : ¬ IsLegacyCredDefId "DXoTtQJNtXtiwWaZAK3rB1:3:CL:98153:a:b".toList := by
  rw [String.toList_ofList, ← isLegacyCredDefIdL_iff]; decide +kernel

-- legacy revocation-registry-definition ids (the first is the one of the Rust unit test)
example : IsLegacyRevRegDefId
    "DXoTtQJNtXtiwWaZAK3rB1:4:DXoTtQJNtXtiwWaZAK3rB1:3:CL:288602:example:CL_ACCUM:default".toList := by
  rw [String.toList_ofList, ← isLegacyRevRegDefIdL_iff]; decide +kernel
example : IsLegacyRevRegDefId
    "DXoTtQJNtXtiwWaZAK3rB1:4:DXoTtQJNtXtiwWaZAK3rB1:3:CL:DXoTtQJNtXtiwWaZAK3rB1:2:example:1.0:tag:CL_ACCUM:".toList := by
  rw [String.toList_ofList, ← isLegacyRevRegDefIdL_iff]; decide +kernel
example : ¬ IsLegacyRevRegDefId
    "DXoTtQJNtXtiwWaZAK3rB1:5:DXoTtQJNtXtiwWaZAK3rB1:3:CL:288602:example:CL_ACCUM:default".toList := by
  rw [String.toList_ofList, ← isLegacyRevRegDefIdL_iff]; decide +kernel
example : ¬ IsLegacyRevRegDefId
    "DXoTtQJNtXtiwWaZAK3rB1:4:DXoTtQJNtXtiwWaZAK3rB1:3:CL:288602::CL_ACCUM:default".toList := by
  rw [String.toList_ofList, ← isLegacyRevRegDefIdL_iff]; decide +kernel
example : ¬ IsLegacyRevRegDefId
    "DXoTtQJNtXtiwWaZAK3rB1:4:DXoTtQJNtXtiwWaZAK3rB1:3:CL:288602:example:CL_ACCUM".toList := by
  rw [String.toList_ofList, ← isLegacyRevRegDefIdL_iff]; decide +kernel

example : idValid .issuer "did:web:x" = true := by
  rw [idValid, isLegacy, isUri_ofList, isLegacyDid_ofList]; decide +kernel
example : idValid .issuer "NcYxiDXkpYi6ov5FcYDi1e" = true := by
  rw [idValid, isLegacy, isUri_ofList, isLegacyDid_ofList]; decide +kernel
example : idValid .issuer "bob" = false := by
  rw [idValid, isLegacy, isUri_ofList, isLegacyDid_ofList]; decide +kernel
example : idValid .schema "NcYxiDXkpYi6ov5FcYDi1e" = false := by
  rw [idValid, isLegacy, isUri_ofList, isLegacySchemaId_ofList]; decide +kernel
example : idValid .schema "7BPMqYgYLQni258J8JPS8K:2:n:1" = true := by
  rw [idValid, isLegacy, isUri_ofList, isLegacySchemaId_ofList]; decide +kernel
example : idValid .issuer "7BPMqYgYLQni258J8JPS8K:2:n:1" = false := by
  rw [idValid, isLegacy, isUri_ofList, isLegacyDid_ofList]; decide +kernel
example : idValid .credDef "7BPMqYgYLQni258J8JPS8K:3:CL:7:" = true := by
  rw [idValid, isLegacy, isUri_ofList, isLegacyCredDefId_ofList]; decide +kernel
example : idValid .revRegDef "7BPMqYgYLQni258J8JPS8K:3:CL:7:" = false := by
  rw [idValid, isLegacy, isUri_ofList, isLegacyRevRegDefId_ofList]; decide +kernel
-- a legacy id whose DID starts with a letter is *also* a URI (scheme = the DID) …
example : isUri "DXoTtQJNtXtiwWaZAK3rB1:3:CL:98153:default" = true := by
  rw [isUri_ofList]; decide +kernel
example : idValid .issuer "DXoTtQJNtXtiwWaZAK3rB1:3:CL:98153:default" = true := by
  rw [idValid, isLegacy, isUri_ofList, isLegacyDid_ofList]; decide +kernel
-- … unless a name or tag contains a line feed, which only the legacy pattern tolerates
example : isUri "DXoTtQJNtXtiwWaZAK3rB1:3:CL:98153:de\nfault" = false := by
  rw [isUri_ofList]; decide +kernel
example : isLegacyCredDefId "DXoTtQJNtXtiwWaZAK3rB1:3:CL:98153:de\nfault" = true := by
  rw [isLegacyCredDefId_ofList]; decide +kernel

example : schemaValid "mock:uri" ["aaa", "bbb", "ccc"] = true := by decide +kernel
example : schemaValid "mock:uri" [] = false := by decide +kernel
example : schemaValid "mock:uri" ["a", "b", "a"] = false := by decide +kernel
example : schemaValid "bob" ["a"] = false := by decide +kernel
private theorem natRepr_inj {a b : Nat} (h : Nat.repr a = Nat.repr b) : a = b :=
  Encode.natRepr_injective h
example : attrNamesValid ((List.range 125).map Nat.repr) = true :=
  (C20_attr_names_valid_iff _).mpr ⟨by simp, by simp,
    List.Pairwise.map _ (fun _ _ h e => h (natRepr_inj e)) List.nodup_range⟩
example : attrNamesValid ((List.range 126).map Nat.repr) = false := by
  cases h : attrNamesValid ((List.range 126).map Nat.repr) with
  | false => rfl
  | true => have := ((C20_attr_names_valid_iff _).mp h).2.1; simp at this

example : credReqValid (some "entropy") none "mock:uri" = true := by
  unfold credReqValid; dsimp only
  rw [idValid, isLegacy, isUri_ofList, isLegacyCredDefId_ofList]; decide +kernel
example : credReqValid (some "entropy") none "DXoTtQJNtXtiwWaZAK3rB1:3:CL:98153:default" = true := by
  unfold credReqValid; dsimp only
  rw [idValid, isLegacy, isUri_ofList, isLegacyCredDefId_ofList]; decide +kernel
theorem credReqValid_proverDid : credReqValid none (some "DXoTtQJNtXtiwWaZAK3rB1")
    "DXoTtQJNtXtiwWaZAK3rB1:3:CL:98153:default" = true := by
  unfold credReqValid; dsimp only
  rw [idValid, isLegacy, isUri_ofList, isLegacyCredDefId_ofList, isUri_ofList, isLegacyDid_ofList]
  decide +kernel
example : credReqValid none (some "DXoTtQJNtXtiwWaZAK3rB1")
    "DXoTtQJNtXtiwWaZAK3rB1:3:CL:98153:default" = true := credReqValid_proverDid
example : credReqValid none (some "mock:uri")
    "DXoTtQJNtXtiwWaZAK3rB1:3:CL:98153:default" = true := by
  unfold credReqValid; dsimp only
  rw [idValid, isLegacy, isUri_ofList, isLegacyCredDefId_ofList, isUri_ofList, isLegacyDid_ofList]
  decide +kernel
example : credReqValid none (some "DXoTtQJNtXtiwWaZAK3rB1") "mock:uri" = false := by
  unfold credReqValid; dsimp only
  rw [idValid, isLegacy, isUri_ofList, isLegacyCredDefId_ofList, isUri_ofList, isLegacyDid_ofList]
  decide +kernel
example : credReqValid (some "entropy") (some "DXoTtQJNtXtiwWaZAK3rB1")
    "DXoTtQJNtXtiwWaZAK3rB1:3:CL:98153:default" = false := by
  unfold credReqValid; dsimp only
  rw [idValid, isLegacy, isUri_ofList, isLegacyCredDefId_ofList]; decide +kernel
example : credReqValid none (some "entropy")
    "DXoTtQJNtXtiwWaZAK3rB1:3:CL:98153:default" = false := by
  unfold credReqValid; dsimp only
  rw [idValid, isLegacy, isUri_ofList, isLegacyCredDefId_ofList, isUri_ofList, isLegacyDid_ofList]
  decide +kernel
example : credReqValid none none "DXoTtQJNtXtiwWaZAK3rB1:3:CL:98153:default" = false := by
  unfold credReqValid; dsimp only
  rw [idValid, isLegacy, isUri_ofList, isLegacyCredDefId_ofList]; decide +kernel
example : credReqValid (some "entropy") none "bob" = false := by
  unfold credReqValid; dsimp only
  rw [idValid, isLegacy, isUri_ofList, isLegacyCredDefId_ofList]; decide +kernel

end AnonModel.Ident
