import AnonModel.Lemmas.Msgpack
import AnonModel.Props.C15B64
/-!
# C15 — the msgpack layer of every W3C proof value is lossless, self-delimiting and injective

`decode (enc v) = some v` for every value of the fragment (no bound on nesting, lengths below 2^32, integers within
`i64 ∪ u64`), also when bytes follow (`from_slice` ignores them); distinct values have distinct byte strings; and the whole
chain text → base64 → msgpack → tagged sequence returns the kind and payload that were written.
-/
namespace AnonModel.Msgpack
open AnonModel.Base64 (AllLt allLt_nil allLt_append)

/-! ## what is written is read back -/

/-- **what is written is read back**, whatever follows it: for every value of the fragment, of any nesting depth -/
theorem C15_mp_decode_encode (v : MV) (hw : v.WF) (rest : List Nat) : decode (enc v ++ rest) = some v := by
  have := sz_le v
  rw [decode, dec_enc v _ rest hw (by simp only [List.length_append]; omega)]
  rfl

/-- the encoding is self-delimiting: no value's bytes are the beginning of another value's bytes followed by something -/
theorem C15_mp_prefix_free (v₁ v₂ : MV) (h₁ : v₁.WF) (h₂ : v₂.WF) (r₁ r₂ : List Nat)
    (h : enc v₁ ++ r₁ = enc v₂ ++ r₂) : v₁ = v₂ ∧ r₁ = r₂ := by
  have e₁ := dec_enc v₁ (sz v₁ + sz v₂) r₁ h₁ (by omega)
  have e₂ := dec_enc v₂ (sz v₁ + sz v₂) r₂ h₂ (by omega)
  rw [h, e₂] at e₁
  cases e₁; exact ⟨rfl, rfl⟩

/-- distinct values have distinct byte strings -/
theorem C15_mp_injective (v₁ v₂ : MV) (h₁ : v₁.WF) (h₂ : v₂.WF) (h : enc v₁ = enc v₂) : v₁ = v₂ :=
  (C15_mp_prefix_free v₁ v₂ h₁ h₂ [] [] (by rw [h])).1

/-- a sequence of values written one after the other is read back element by element (the members of a structure) -/
theorem C15_mp_sequence (xs : List MV) (hw : WFs xs) (rest : List Nat) :
    decN (szs xs) xs.length (encs xs ++ rest) = some (xs, rest) := decN_encs xs _ rest hw (Nat.le_refl _)

/-- trailing bytes are not looked at (`from_slice`): a second spelling of every value exists at this layer; it is the
base64 layer's text-for-bytes theorem and the document comparison that pin the text -/
theorem C15_mp_trailing_ignored (v : MV) (hw : v.WF) (junk : List Nat) : decode (enc v ++ junk) = decode (enc v) := by
  rw [C15_mp_decode_encode v hw junk, ← List.append_nil (enc v), C15_mp_decode_encode v hw []]

/-- the reader accepts longer forms the writer never produces (here: 5 as an `i32`), so reading is not injective -/
theorem C15_mp_reader_accepts_wide_forms : decode [0xd2, 0, 0, 0, 5] = some (.int 5) ∧ enc (.int 5) = [5] := ⟨rfl, rfl⟩

/-! ## what the reader returns from any bytes, and its recursion bound -/

/-- **everything the reader returns lies in the fragment the writer handles** (integers of `i64 ∪ u64`, lengths below 2^32, maps
as pairs), for every byte string, accepted in whatever form -/
theorem C15_mp_reader_output_wf (bs : List Nat) (hb : AllLt 256 bs) (v : MV) (h : decode bs = some v) : v.WF := by
  obtain ⟨⟨v, r⟩, hd, rfl⟩ := Option.map_eq_some_iff.mp h
  exact ((dec_decN_wf _).1 bs v r hd hb).1

/-- **so what was read can be written again and is then read back as the same value**: serialising the deserialised object and
deserialising once more changes nothing, also when the bytes received were in a longer form or had bytes after them -/
theorem C15_mp_reread (bs : List Nat) (hb : AllLt 256 bs) (v : MV) (h : decode bs = some v) : decode (enc v) = some v := by
  have := C15_mp_decode_encode v (C15_mp_reader_output_wf bs hb v h) []
  rwa [List.append_nil] at this

/-- an answer obtained with some bound is the answer with the next one, hence with every larger one (`dec_decN_bound` says
so directly): the recursion bound never changes an answer -/
theorem dec_decN_mono : ∀ f : Nat,
    (∀ bs p, dec f bs = some p → dec (f + 1) bs = some p) ∧
    (∀ n bs p, decN f n bs = some p → decN (f + 1) n bs = some p) := fun f =>
  ⟨fun bs p h => (dec_decN_bound f).1 bs p.1 p.2 h _ (Or.inl (Nat.le_succ f)),
    fun n bs p h => (dec_decN_bound f).2 n bs p.1 p.2 h _ (Or.inl (Nat.le_succ f))⟩

/-- `decode` gives the answer of every smaller bound that gives one: its own bound only decides whether there is an answer
(and for everything the writer writes there is: `C15_mp_decode_encode`) -/
theorem C15_mp_bound_irrelevant (f : Nat) (bs : List Nat) (v : MV) (r : List Nat) (hf : f ≤ 2 * bs.length + 2)
    (h : dec f bs = some (v, r)) : decode bs = some v := by
  simp [decode, (dec_decN_bound f).1 bs v r h _ (Or.inl hf)]

/-- **a value takes at least one byte and the reader hands back exactly the rest**: `n` values in a row take at least `n`
bytes, so a length field larger than the input can never be honoured -/
theorem C15_mp_reads_prefix (f : Nat) (bs : List Nat) (v : MV) (r : List Nat) (h : dec f bs = some (v, r)) :
    ∃ pre, pre ≠ [] ∧ bs = pre ++ r := by
  obtain ⟨pre, e, hl⟩ := (dec_decN_consumed f).1 bs v r h
  exact ⟨pre, by rintro rfl; simp at hl, e⟩

/-- `n` values read in a row took at least `n` bytes -/
theorem C15_mp_count_bounded (f n : Nat) (bs : List Nat) (xs : List MV) (r : List Nat) (h : decN f n bs = some (xs, r)) :
    n + r.length ≤ bs.length := by
  obtain ⟨pre, rfl, hl⟩ := (dec_decN_consumed f).2 n bs xs r h
  have := two_length_le_szs xs
  rw [decN_length h] at this
  simp; omega

/-- an answer is obtained already with the bound `sz v` (the number of nodes, counted as in `sz`), and the value is small
against the bytes it took: `sz v + 1 ≤ 2 · consumed` -/
theorem dec_decN_min : ∀ f : Nat,
    (∀ bs v r, dec f bs = some (v, r) → dec (sz v) bs = some (v, r) ∧ sz v + 1 + 2 * r.length ≤ 2 * bs.length) ∧
    (∀ n bs xs r, decN f n bs = some (xs, r) → decN (szs xs) n bs = some (xs, r) ∧ szs xs + 2 * r.length ≤ 2 * bs.length) :=
  fun f =>
  ⟨fun bs v r h => ⟨(dec_decN_bound f).1 bs v r h _ (Or.inr (Nat.le_refl _)), by
      obtain ⟨pre, rfl, hl⟩ := (dec_decN_consumed f).1 bs v r h
      simp; omega⟩,
    fun n bs xs r h => ⟨(dec_decN_bound f).2 n bs xs r h _ (Or.inr (Nat.le_refl _)), by
      obtain ⟨pre, rfl, hl⟩ := (dec_decN_consumed f).2 n bs xs r h
      simp; omega⟩⟩

/-- **`decode` is the reader with no bound at all**: an answer obtained under *any* bound is `decode`'s answer -/
theorem C15_mp_decode_complete (f : Nat) (bs : List Nat) (v : MV) (r : List Nat) (h : dec f bs = some (v, r)) :
    decode bs = some v := by
  obtain ⟨h1, h2⟩ := (dec_decN_min f).1 bs v r h
  exact C15_mp_bound_irrelevant (sz v) bs v r (by omega) h1

/-! ## the whole proof value: text → base64url → msgpack → tagged sequence -/

/-- `DataIntegrityProofValue::serialize` through `format::base64_msgpack::serialize` -/
def pvWrite (k : Nat) (p : MV) : List Char := AnonModel.Base64.envelopeEncode (enc (tagged k p))

/-- `format::base64_msgpack::deserialize` and the visitor of the tagged sequence, up to the typed payload -/
def pvRead (s : List Char) : Option (Nat × MV) := (AnonModel.Base64.envelopeDecode s).bind readTagged

theorem tagged_wf {k : Nat} {p : MV} (hk : k = 1 ∨ k = 2 ∨ k = 3) (hw : p.WF) : (tagged k p).WF := by
  simp only [tagged, MV.WF, WFs, List.length_cons, List.length_nil]
  refine ⟨by omega, ⟨by omega, by omega⟩, hw, trivial⟩

theorem envelopeDecode_pvWrite (k : Nat) {p : MV} (hb : p.Bytes) :
    AnonModel.Base64.envelopeDecode (pvWrite k p) = some (enc (tagged k p)) :=
  AnonModel.Base64.C15_envelope_decode_encode _ (enc_lt _ ⟨trivial, hb, trivial⟩)

/-- **a proof value of kind `k` with payload `p` is read back as kind `k` with payload `p`** from the text written for it: all
three layers composed, for every payload tree -/
theorem C15_pv_chain (k : Nat) (hk : k = 1 ∨ k = 2 ∨ k = 3) (p : MV) (hw : p.WF) (hb : p.Bytes) :
    pvRead (pvWrite k p) = some (k, p) := by
  have := C15_mp_decode_encode (tagged k p) (tagged_wf hk hw) []
  rw [List.append_nil] at this
  rw [pvRead, envelopeDecode_pvWrite k hb, Option.bind_some, readTagged, this]
  rcases hk with rfl | rfl | rfl <;> rfl

/-- two proof values with the same text are the same kind and payload -/
theorem C15_pv_chain_injective (k₁ k₂ : Nat) (h₁ : k₁ = 1 ∨ k₁ = 2 ∨ k₁ = 3) (h₂ : k₂ = 1 ∨ k₂ = 2 ∨ k₂ = 3)
    (p₁ p₂ : MV) (w₁ : p₁.WF) (w₂ : p₂.WF) (b₁ : p₁.Bytes) (b₂ : p₂.Bytes) (h : pvWrite k₁ p₁ = pvWrite k₂ p₂) :
    k₁ = k₂ ∧ p₁ = p₂ := by
  have e₁ := C15_pv_chain k₁ h₁ p₁ w₁ b₁
  have e₂ := C15_pv_chain k₂ h₂ p₂ w₂ b₂
  rw [h, e₂] at e₁
  cases e₁; exact ⟨rfl, rfl⟩

/-- a sequence with another tag, a third element, or no payload is refused whatever the payload is -/
theorem C15_pv_untag_shape (v : MV) (k : Nat) (p : MV) (h : untag v = some (k, p)) :
    v = .arr [.int k, p] ∧ (k = 1 ∨ k = 2 ∨ k = 3) := by
  revert h
  fun_cases untag v <;> rintro ⟨⟩ <;> simp [*]

/-! ## structures: every member written is the member found after the trip -/

/-- **a structure survives the trip member by member**: from the bytes written for a structure with distinct member names,
the reader gets a map in which every member name leads to the value that was written, and no other name leads anywhere
(an optional member that was skipped is absent, hence `None`) -/
theorem C15_mp_struct_members (fields : List (List Nat × MV)) (hn : fields.length < 4294967296)
    (hk : ∀ f ∈ fields, f.1.length < 4294967296) (hv : ∀ f ∈ fields, f.2.WF) (hd : (fields.map (·.1)).Nodup)
    (rest : List Nat) :
    ∃ kvs, decode (enc (structMV fields) ++ rest) = some (.map kvs) ∧
      (∀ k v, (k, v) ∈ fields → field k kvs = some v) ∧ (∀ k, k ∉ fields.map (·.1) → field k kvs = none) :=
  ⟨members fields, C15_mp_decode_encode _ (structMV_wf fields hn hk hv) rest,
    fun k v h => field_members fields k v hd h, fun k h => field_absent fields k h⟩

/-! ## the typed layer on top: the visitor of `WirePv` on elements classified from the bytes -/

/-- **the bytes written for a proof value of kind `k` are read as kind `k`** when the payload has the members of structure
`k`, and are refused when it has those of another structure — the decision computed from the bytes, all layers composed -/
theorem C15_pv_typed (k j : Nat) (hk : k = 1 ∨ k = 2 ∨ k = 3) (p : MV) (hw : p.WF) (hp : payloadKind p = some j)
    (junk : List Nat) :
    readTyped (enc (tagged k p) ++ junk) = if j = k then some k else none := by
  have hi : itemOf (.int (k : Int)) = .int k := by simp only [itemOf]; rw [if_pos (by omega)]
  rw [readTyped, C15_mp_decode_encode (tagged k p) (tagged_wf hk hw) junk]
  simp only [tagged, List.map_cons, List.map_nil, itemOf_payload hp, hi]
  rcases hk with rfl | rfl | rfl <;> rcases payloadKind_range hp with rfl | rfl | rfl <;> decide

/-- and the text written for it, through the header and the base64 layer -/
theorem C15_pv_typed_text (k : Nat) (hk : k = 1 ∨ k = 2 ∨ k = 3) (p : MV) (hw : p.WF) (hb : p.Bytes)
    (hp : payloadKind p = some k) :
    (AnonModel.Base64.envelopeDecode (pvWrite k p)).bind readTyped = some k := by
  have := C15_pv_typed k k hk p hw hp []
  rwa [List.append_nil, if_pos rfl, ← Option.bind_some (f := readTyped), ← envelopeDecode_pvWrite k hb] at this

example : enc (.map [.str [97], .int 300, .str [98], .arr [.nil, .bool true, .int (-33)]])
    = [0x82, 0xa1, 97, 0xcd, 1, 44, 0xa1, 98, 0x93, 0xc0, 0xc3, 0xd0, 223] := rfl
example : (MV.map [.str [97], .int 300, .str [98], .arr [.nil, .bool true, .int (-33)]]).WF := by
  simp [MV.WF, WFs]

/-! a map with the one required member of `PresentationProofValue` -/
example : payloadKind (.map [.str (key "aggregated"), .nil]) = some 3 := by decide +kernel
end AnonModel.Msgpack
