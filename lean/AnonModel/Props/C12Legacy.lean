import AnonModel.Lemmas.VerifierLegacy
/-!
# C12 (legacy verifier) — `verify_presentation` returns, and returns `Ok`/`Err`: it never panics

The model keeps `Outcome.panic site` apart from `Outcome.err`: every expression of the non-test Rust
code of `services/verifier.rs` that can panic would be a `panic` branch of the model. In the code
(/repo fix commit d3e6fd3; F11 of DESIGN §7 was the two panics it removes) the sub-proof at an
index is taken by a checked `get`, and `verify_requested_restrictions` looks the name of a revealed
referent up in the request by `get(..).and_then(..)`; the `unwrap` of
`requested_proof.predicates.get(referent)` there is preceded by
`received_predicates.get(referent).ok_or_else(..)?` on a map built from the same
`requested_proof.predicates`, so a missing referent is an `Err` before the `unwrap` is reached; the
remaining `unwrap`s take a key just obtained from `keys()` of the same map. So the model functions
`restrictionsOutcome` and `verifyLegacy` contain no panicking branch; the only `panic` that occurs
in `verifyLegacy` is the propagation arm `| .panic s => .panic s` of the match on
`restrictionsOutcome`. The theorems below say that this arm is dead.

Totality. Every function of `Model/Verifier.lean`, `Model/IdealCL.lean`, `Model/Query.lean`,
`Model/Interval.lean`, `Model/Names.lean`, `Model/Encode.lean` used by `verifyLegacy` is defined by
structural recursion (on a list, or on the `Query` tree through the mutual `eval`/`evalAll`/`evalAny`)
or is recursion-free; none is `partial`, none uses fuel, none uses `get!`/`getD`/division: Lean's
termination checker accepted them as they are, so `verifyLegacy ctx r p` is a value of `Outcome`
for every input — it cannot diverge. Together with `C12_legacy_no_panic`: for all inputs the
verdict is `ok true`, `ok false` or `err` (`C12_legacy_trichotomy`).
-/
namespace AnonModel.Verifier

/-- the predicate loop of `verify_requested_restrictions` never panics -/
theorem C12_restrictions_loop_no_panic (ctx : Ctx) (r : Request) (p : Presentation)
    (l : List (String × PredInfo)) (s : Nat) : restrictionsOutcome.go ctx r p l ≠ .panic s := by
  rw [restrictionsOutcome_go_eq]; cases l.all (predClause ctx r p) <;> exact Outcome.noConfusion

/-- `verify_requested_restrictions` never panics, for any context, request and presentation -/
theorem C12_restrictions_no_panic (ctx : Ctx) (r : Request) (p : Presentation) (s : Nat) :
    restrictionsOutcome ctx r p ≠ .panic s := by
  rw [restrictionsOutcome_eq]; cases restrictionsOk ctx r p <;> exact Outcome.noConfusion

/-- `verify_requested_restrictions` yields `Ok(())` (modelled `ok true`) or `Err` only -/
theorem C12_restrictions_ok_or_err (ctx : Ctx) (r : Request) (p : Presentation) :
    restrictionsOutcome ctx r p = .ok true ∨ restrictionsOutcome ctx r p = .err := by
  rw [restrictionsOutcome_eq]; cases restrictionsOk ctx r p
  · exact Or.inr rfl
  · exact Or.inl rfl

/-- **C12**: `verify_presentation` never panics, for any context, request and presentation
(well-formed or not: dangling indices, missing referents, missing definitions, … all end in `Err`) -/
theorem C12_legacy_no_panic (ctx : Ctx) (r : Request) (p : Presentation) (s : Nat) :
    verifyLegacy ctx r p ≠ .panic s := by
  rw [verifyLegacy_eq]; exact verdict_ne_panic s

/-- the verdict is one of `Ok(true)`, `Ok(false)`, `Err` -/
theorem C12_legacy_trichotomy (ctx : Ctx) (r : Request) (p : Presentation) :
    verifyLegacy ctx r p = .ok true ∨ verifyLegacy ctx r p = .ok false ∨
      verifyLegacy ctx r p = .err := by
  rw [verifyLegacy_eq]; exact verdict_trichotomy

section Examples
open Honest

example : verifyLegacy ctx req pres = .ok true := Honest.accepted
example : verifyLegacy ctx { req with nonce := "M" } pres = .ok false := Honest.other_nonce
-- dangling sub-proof index in `revealed_attrs`
example : verifyLegacy ctx req
    { pres with revealed := [("a1", { idx := 7, raw := "7", encoded := "7" })] } = .err := by decide +kernel
-- no sub-proofs at all (more identifiers than sub-proofs: the situation of F11 (b) of DESIGN §7)
example : verifyLegacy ctx req { pres with subs := [] } = .err := by decide +kernel
-- a restricted predicate the presentation has no entry for: the `unwrap` of the predicate loop is not
-- reached; the earlier set comparison already rejects it
example : verifyLegacy ctx
    { req with preds := [("p1", { name := "age", ty := "GE", value := 18,
                                  restrictions := some (.eq "cred_def_id" "C"), nonRevoked := none })] }
    { pres with predicates := [] } = .err := by decide +kernel
-- … and the restriction loop on its own also answers `err` there
example : restrictionsOutcome ctx
    { req with preds := [("p1", { name := "age", ty := "GE", value := 18,
                                  restrictions := some (.eq "cred_def_id" "C"), nonRevoked := none })] }
    { pres with predicates := [] } = .err := by decide +kernel
example : verifyLegacy ⟨[], [], none, none, none⟩ ⟨"", [], [], none⟩
    ⟨[], [], [], [], [], [], [], ⟨"", [], true⟩⟩ = .ok true := by decide +kernel
end Examples

end AnonModel.Verifier
