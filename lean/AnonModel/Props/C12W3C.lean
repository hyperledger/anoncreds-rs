import AnonModel.Lemmas.VerifierW3C
/-!
# C12 (W3C form) — the W3C presentation verifier never panics

Property theorems only. `Verifier.Outcome` keeps `panic` apart from `err`; the model of
`services/w3c/verifier.rs: verify_presentation` (`verifyW3C`) mirrors a function whose non-test
code has no `unwrap`/index/arithmetic that can panic (regenerated panic-site table), so no branch
of the model produces `panic`. The theorem states this for **every** context, request and
presentation — in particular for presentations whose credential list, sub-proofs, identifiers and
aggregated proof are mutually inconsistent. Termination is by construction (total Lean function).
-/
namespace AnonModel.VerifierW3C
open AnonModel.Verifier

/-- whatever the verifier is given, the W3C verification ends with `Ok(true)`, `Ok(false)` or
`Err`: it does not panic at any site -/
theorem C12_w3c_no_panic (ctx : Ctx) (r : Request) (p : Presentation) (s : Nat) :
    verifyW3C ctx r p ≠ .panic s := by
  rw [verifyW3C_eq]; exact verdict_ne_panic s

/-- the same as a trichotomy -/
theorem C12_w3c_outcome (ctx : Ctx) (r : Request) (p : Presentation) :
    verifyW3C ctx r p = .ok true ∨ verifyW3C ctx r p = .ok false ∨ verifyW3C ctx r p = .err := by
  rw [verifyW3C_eq]; exact verdict_trichotomy

set_option maxRecDepth 100000 in
example : verifyW3C Demo.ctx Demo.req Demo.pres = .ok true := Demo.accepted

set_option maxRecDepth 100000 in
example : verifyW3C Demo.ctx { Demo.req with nonce := "2" } Demo.pres = .ok false := by decide +kernel

set_option maxRecDepth 100000 in
example : verifyW3C { Demo.ctx with credDefs := [] } Demo.req Demo.pres = .err := by decide +kernel

end AnonModel.VerifierW3C
