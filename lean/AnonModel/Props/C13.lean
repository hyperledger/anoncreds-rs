import AnonModel.Lemmas.Encode
/-!
# C13 — attribute encoding is the canonical, total, deterministic function

The property theorems and `IsI32Literal`, the specification of a literal (helper lemmas:
`Lemmas/Encode.lean`).
`encode` is a total Lean function (no `Option`), so "never fails" and
"deterministic" are facts about its type; the theorems state *which* function it is.
-/
namespace AnonModel.Encode

/-- `cs` is an optionally signed, non-empty run of ASCII digits denoting `n`, and `n`
fits the signed 32-bit range. Zero padding, `+5`, `-0` are literals; `+`, `-`, the
empty string, non-ASCII digits, inner signs or spaces are not. -/
def IsI32Literal (cs : List Char) (n : Int) : Prop :=
  ∃ ds : List Char, ds ≠ [] ∧ AllDigits ds = true ∧ i32Min ≤ n ∧ n ≤ i32Max ∧
    (((cs = ds ∨ cs = '+' :: ds) ∧ n = (decVal ds : Int)) ∨ (cs = '-' :: ds ∧ n = -(decVal ds : Int)))

private theorem loopPos_nil_ne (n : Int) : loopPos 0 [] = some n → n = 0 := by
  simp [loopPos]; intro h; exact h.symm

/-- **parse ↔ spec**: the digit loop with checked arithmetic accepts exactly the
literals in range, with their value (the `-2^31` case is why the negative loop
subtracts). -/
theorem C13_parseI32_spec (cs : List Char) (n : Int) :
    parseI32 cs = some n ↔ IsI32Literal cs n := by
  constructor
  · fun_cases parseI32 cs <;> intro h
    iterate 3 cases h
    · obtain ⟨hall, rfl, hhi⟩ := loopPos_zero_eq_some.mp h
      exact ⟨_, ‹_›, hall, by unfold i32Min; omega, hhi, .inl ⟨.inr rfl, rfl⟩⟩
    · obtain ⟨hall, rfl, hlo⟩ := loopNeg_zero_eq_some.mp h
      exact ⟨_, ‹_›, hall, hlo, by unfold i32Max; omega, .inr ⟨rfl, rfl⟩⟩
    · obtain ⟨hall, rfl, hhi⟩ := loopPos_zero_eq_some.mp h
      exact ⟨_, ‹_›, hall, by unfold i32Min; omega, hhi, .inl ⟨.inl rfl, rfl⟩⟩
  · rintro ⟨ds, hne, hall, hlo, hhi, ⟨rfl | rfl, hn⟩ | ⟨rfl, hn⟩⟩
    · rw [parseI32_digits hne hall]; exact loopPos_zero_eq_some.mpr ⟨hall, hn, hhi⟩
    · rw [parseI32_plus hne]; exact loopPos_zero_eq_some.mpr ⟨hall, hn, hhi⟩
    · rw [parseI32_minus hne]; exact loopNeg_zero_eq_some.mpr ⟨hall, hn, hlo⟩

/-- a string denotes at most one integer -/
theorem C13_literal_unique {cs : List Char} {n m : Int}
    (h1 : IsI32Literal cs n) (h2 : IsI32Literal cs m) : n = m := by
  have a := (C13_parseI32_spec cs n).mpr h1
  have b := (C13_parseI32_spec cs m).mpr h2
  rw [a] at b; exact Option.some.inj b

/-- **integer branch**: every in-range literal is mapped to that integer's decimal form -/
theorem C13_encode_int {s : String} {n : Int} (h : IsI32Literal s.toList n) :
    encode s = intToDec n := by
  simp [encode, (C13_parseI32_spec _ _).mpr h]

theorem no_literal_iff {cs : List Char} :
    (¬ ∃ n, IsI32Literal cs n) ↔ parseI32 cs = none := by
  simp [← C13_parseI32_spec, Option.eq_none_iff_forall_ne_some]

/-- **hash branch**: every other string is mapped to the decimal value of the
big-endian SHA-256 digest of its UTF-8 bytes -/
theorem C13_encode_sha {s : String} (h : ¬ ∃ n, IsI32Literal s.toList n) :
    encode s = Nat.repr (beNat (Sha256.sha256 s.toUTF8).toList) := by
  simp [encode, no_literal_iff.mp h, shaDec]

/-- **canonical form**: the decimal form of an in-range integer parses back to it -/
theorem C13_canonical {n : Int} (hlo : i32Min ≤ n) (hhi : n ≤ i32Max) :
    parseI32 (intToDec n).toList = some n :=
  parseI32_intToDec hlo hhi

/-- literals denote in-range integers (range part of the spec, extracted) -/
theorem C13_literal_range {cs : List Char} {n : Int} (h : IsI32Literal cs n) :
    i32Min ≤ n ∧ n ≤ i32Max := by
  obtain ⟨_, _, _, a, b, _⟩ := h; exact ⟨a, b⟩

/-- encoding an already encoded integer changes nothing -/
theorem C13_encode_idem_on_ints {s : String} {n : Int} (h : IsI32Literal s.toList n) :
    encode (encode s) = encode s := by
  obtain ⟨hlo, hhi⟩ := C13_literal_range h
  rw [C13_encode_int h]
  simp [encode, C13_canonical hlo hhi]

/-- decimal printing of naturals is injective (`BigNumber::to_dec` loses nothing) -/
theorem C13_natRepr_injective {a b : Nat} (h : Nat.repr a = Nat.repr b) : a = b :=
  natRepr_injective h

/-- decimal printing of integers is injective -/
theorem C13_intToDec_injective {a b : Int} (h : intToDec a = intToDec b) : a = b := by
  unfold intToDec at h
  have hne : ∀ m k : Nat, "-" ++ Nat.repr m ≠ Nat.repr k := fun m k e => by
    have : (Nat.repr k).toList.head? = some '-' := by
      simpa [String.toList_append] using (congrArg (fun s => s.toList.head?) e).symm
    exact (digit_ne_sign (allDigits_iff.mp (repr_toList_allDigits k) '-'
      (List.mem_of_mem_head? this))).2 rfl
  by_cases ha : a < 0 <;> by_cases hb : b < 0 <;> simp only [ha, hb, if_true, if_false] at h
  · have := congrArg String.toList h
    simp only [String.toList_append, List.append_cancel_left_eq] at this
    have := natRepr_injective (String.toList_inj.mp this)
    omega
  · exact absurd h (hne _ _)
  · exact absurd h.symm (hne _ _)
  · have := natRepr_injective h
    omega

/-- hence two literals are encoded alike iff they denote the same integer -/
theorem C13_encode_int_inj {s t : String} {n m : Int}
    (hs : IsI32Literal s.toList n) (ht : IsI32Literal t.toList m) :
    encode s = encode t ↔ n = m := by
  rw [C13_encode_int hs, C13_encode_int ht]
  exact ⟨C13_intToDec_injective, fun h => by rw [h]⟩

/-- the verifier's normalisation is the identity on every decimal natural number -/
theorem C13_normalize_natRepr (m : Nat) : normalizeEnc (Nat.repr m) = Nat.repr m :=
  normalizeEnc_natRepr m

/-- the verifier's normalisation leaves every encoder output unchanged -/
theorem C13_normalize_encode (s : String) : normalizeEnc (encode s) = encode s :=
  normalizeEnc_encode s

/-- normalisation is idempotent -/
theorem C13_normalize_idem (s : String) : normalizeEnc (normalizeEnc s) = normalizeEnc s := by
  unfold normalizeEnc
  cases hp : parseI32 s.toList with
  | some n =>
    obtain ⟨hlo, hhi⟩ := parseI32_range hp
    simp [C13_canonical hlo hhi]
  | none => simp [hp]

/-- normalisation maps a literal and the canonical form of its value to the same string -/
theorem C13_normalize_literal {s : String} {n : Int} (h : IsI32Literal s.toList n) :
    normalizeEnc s = intToDec n := by
  simp [normalizeEnc, (C13_parseI32_spec _ _).mpr h]

example : IsI32Literal "007".toList 7 := (C13_parseI32_spec _ _).mp (by decide +kernel)
example : IsI32Literal "+5".toList 5 := (C13_parseI32_spec _ _).mp (by decide +kernel)
example : IsI32Literal "-0".toList 0 := (C13_parseI32_spec _ _).mp (by decide +kernel)
example : IsI32Literal "-2147483648".toList (-2147483648) := (C13_parseI32_spec _ _).mp (by decide +kernel)
example : IsI32Literal "2147483647".toList 2147483647 := (C13_parseI32_spec _ _).mp (by decide +kernel)
example : ¬ ∃ n, IsI32Literal "2147483648".toList n :=
  no_literal_iff.mpr (by decide +kernel)
example : ¬ ∃ n, IsI32Literal "-2147483649".toList n :=
  no_literal_iff.mpr (by decide +kernel)
example : ¬ ∃ n, IsI32Literal "+".toList n :=
  no_literal_iff.mpr (by decide +kernel)
example : ¬ ∃ n, IsI32Literal "".toList n :=
  no_literal_iff.mpr (by decide +kernel)
example : ¬ ∃ n, IsI32Literal "١٢".toList n :=
  no_literal_iff.mpr (by decide +kernel)
example : ¬ ∃ n, IsI32Literal " 1".toList n :=
  no_literal_iff.mpr (by decide +kernel)
example : encode "0042" = "42" := by decide +kernel
example : encode "-0" = "0" := by decide +kernel

end AnonModel.Encode
