import AnonModel.Gen.Consts
import AnonModel.Model.Ident
/-!
# C20: the regex literals and limits the identifier model was written for are the ones in `/repo`

`Gen/Consts.lean` is regenerated from the sources on every run; these equalities tie the hand-transcribed
recognisers of `Model/Ident.lean` to the literals in `utils/validation.rs`. A change of a literal breaks the
equality even when the language is unchanged: the check then searches for a string the model and the code
classify differently (the c20 family varies every position of every form over all of ASCII).
-/
namespace AnonModel.GenConsts
open AnonModel.Gen

/-- C20: the five identifier patterns of `utils/validation.rs` are the ones `Model/Ident.lean` transcribes -/
theorem C20_regex_literals_unchanged :
    re_URI_IDENTIFIER = "^[a-zA-Z][a-zA-Z0-9\\+\\-\\.]*:.+$" ∧
    re_LEGACY_DID_IDENTIFIER = "^[1-9A-HJ-NP-Za-km-z]{21,22}$" ∧
    re_LEGACY_SCHEMA_IDENTIFIER = "^[1-9A-HJ-NP-Za-km-z]{21,22}:2:[^:]+:[0-9.]+$" ∧
    re_LEGACY_CRED_DEF_IDENTIFIER = "^[1-9A-HJ-NP-Za-km-z]{21,22}:3:CL:(([1-9][0-9]*)|([a-zA-Z0-9]{21,22}:2:[^:]+:[0-9.]+)):([^:]+)?$" ∧
    re_LEGACY_REV_REG_DEF_IDENTIFIER = "^[1-9A-HJ-NP-Za-km-z]{21,22}:4:[1-9A-HJ-NP-Za-km-z]{21,22}:3:CL:(([1-9][0-9]*)|([a-zA-Z0-9]{21,22}:2:[^:]+:[0-9.]+)):([^:]+):CL_ACCUM:([^:]+)?$" :=
  ⟨rfl, rfl, rfl, rfl, rfl⟩

/-- C20: `MAX_ATTRIBUTES_COUNT` -/
theorem C20_max_attributes_unchanged : maxAttributesCount = Ident.maxAttributesCount := rfl

end AnonModel.GenConsts
