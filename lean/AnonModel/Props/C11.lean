import AnonModel.Lemmas.Issuance
import AnonModel.Lemmas.VerifierLegacy
import AnonModel.Props.C20
/-!
# C11 — issuance is bound to offer, request, schema and link secret on both sides

"An issuer signs a credential only for a request that proves knowledge of its blinded link secret
under the nonce of the very offer it answers, and only for exactly the attribute set of the
credential definition's schema. A holder's processing of a received credential succeeds iff its
signed values, credential definition, link secret and request metadata are the ones used at
issuance, so a credential that passes processing always yields verifiable presentations and a
tampered or foreign one is rejected."

The model is `Model/Issuance.lean` (`issuer::create_credential`, `prover::create_credential_request`,
`prover::process_credential` over the ideal CL functionality): ghost fields record which key, link
secret (`holder`), blinding factor and nonces each cryptographic object was really built with, and
`intact = false` stands for any modification of its bytes. The lemmas about `sameAttrs`,
`normAttrs` and `entropyOf` alone are in `Lemmas/Issuance.lean`.
-/
namespace AnonModel.Issuance
open AnonModel.Names AnonModel.Verifier

/-- normal forms (`attr_common_view`: no spaces, lower case) of the names of the values to sign -/
def valueNames (values : List (String × String)) : List String := values.map (fun nv => commonView nv.1)

/-- normal forms of the attribute names of the credential definition's schema -/
def schemaNames (cd : CredDef) : List String := cd.schemaAttrs.map commonView

/-- the values name exactly the schema's attributes: equal as *sets* of normal forms -/
def SameNames (values : List (String × String)) (cd : CredDef) : Prop :=
  ∀ x, x ∈ valueNames values ↔ x ∈ schemaNames cd

/-- two association lists are the same single-valued map: same entries, no key with two values -/
def SameMap (a b : List (String × String)) : Prop :=
  (∀ kv, kv ∈ a ↔ kv ∈ b) ∧ ∀ k v v', (k, v) ∈ a → (k, v') ∈ a → v = v'

/-- the same map gives the same answer to every lookup -/
theorem C11_sameMap_lookup_eq {a b : List (String × String)} (h : SameMap a b) (k : String) :
    a.lookup k = b.lookup k := by
  obtain ⟨h1, h2⟩ := (sameAttrs_iff_lookup a b).mp ((sameAttrs_iff a b).mpr h)
  exact Option.ext fun v => ⟨fun ha => h1 _ (List.mem_of_lookup ha), fun hb => h2 _ (List.mem_of_lookup hb)⟩

theorem createCredential_eq_some_iff {cd : CredDef} {offer : Offer} {req : CredRequest}
    {values : List (String × String)} {c : Credential} :
    createCredential cd offer req values = some c ↔
      ((entropyOf req).isSome = true ∧ req.blinded.intact = true ∧ req.blinded.key = cd.key ∧
        req.blinded.proofNonce = offer.nonce ∧ SameNames values cd) ∧
      c = { values := values,
            sig := { key := cd.key, attrs := normAttrs values, holder := req.blinded.holder,
                     blinding := req.blinded.blinding, nonce := req.nonce, intact := true } } := by
  unfold createCredential SameNames valueNames schemaNames
  rw [← sameSet_iff]
  simp only [Option.ite_none_left_eq_some, Option.some.injEq, Bool.not_eq_true', Bool.not_eq_false,
    ← Option.not_isSome, Bool.and_eq_true, beq_iff_eq, eq_comm (b := c), and_assoc]

/-- **`create_credential` succeeds iff** the request carries entropy or a prover DID, its
blinded-link-secret correctness proof is intact, was made for this credential definition's key and
under the nonce of this very offer, and the values name exactly the schema's attributes (as sets of
normal forms). -/
theorem C11_issue_ok_iff (cd : CredDef) (offer : Offer) (req : CredRequest)
    (values : List (String × String)) :
    (createCredential cd offer req values).isSome = true ↔
      (entropyOf req).isSome = true ∧ req.blinded.intact = true ∧ req.blinded.key = cd.key ∧
      req.blinded.proofNonce = offer.nonce ∧ SameNames values cd := by
  simp only [Option.isSome_iff_exists, createCredential_eq_some_iff, exists_and_left, exists_eq, and_true]

/-- **what is signed**: the credential carries the values as given; the signature is by the
definition's key over the normalised names and the given encoded values, for the link secret and
blinding factor inside the request, and its correctness proof is bound to the request's nonce. -/
theorem C11_issue_returns {cd : CredDef} {offer : Offer} {req : CredRequest}
    {values : List (String × String)} {c : Credential} (h : createCredential cd offer req values = some c) :
    c.values = values ∧
    c.sig = { key := cd.key, attrs := normAttrs values, holder := req.blinded.holder,
              blinding := req.blinded.blinding, nonce := req.nonce, intact := true } := by
  rw [(createCredential_eq_some_iff.mp h).2]; exact ⟨rfl, rfl⟩

private theorem refused_of_not {cd : CredDef} {offer : Offer} {req : CredRequest}
    {values : List (String × String)}
    (h : ¬ ((entropyOf req).isSome = true ∧ req.blinded.intact = true ∧ req.blinded.key = cd.key ∧
      req.blinded.proofNonce = offer.nonce ∧ SameNames values cd)) :
    createCredential cd offer req values = none :=
  Option.eq_none_iff_forall_ne_some.mpr fun _ hc => h (createCredential_eq_some_iff.mp hc).1

/-- **replayed request**: a request whose correctness proof was made under another offer's nonce is
refused. -/
theorem C11_issue_replayed_request_refused {cd : CredDef} {offer : Offer} {req : CredRequest}
    (values : List (String × String)) (h : req.blinded.proofNonce ≠ offer.nonce) :
    createCredential cd offer req values = none :=
  refused_of_not (fun hh => h hh.2.2.2.1)

/-- **foreign request**: a request whose link secret was blinded for another credential
definition's key is refused. -/
theorem C11_issue_foreign_request_refused {cd : CredDef} {offer : Offer} {req : CredRequest}
    (values : List (String × String)) (h : req.blinded.key ≠ cd.key) :
    createCredential cd offer req values = none :=
  refused_of_not (fun hh => h hh.2.2.1)

/-- a request whose blinded secret or correctness proof was modified is refused -/
theorem C11_issue_modified_request_refused {cd : CredDef} {offer : Offer} {req : CredRequest}
    (values : List (String × String)) (h : req.blinded.intact = false) :
    createCredential cd offer req values = none :=
  refused_of_not (fun hh => by rw [h] at hh; cases hh.2.1)

/-- a request with neither entropy nor prover DID is refused -/
theorem C11_issue_no_entropy_refused {cd : CredDef} {offer : Offer} {req : CredRequest}
    (values : List (String × String)) (h1 : req.entropy = none) (h2 : req.proverDid = none) :
    createCredential cd offer req values = none :=
  refused_of_not (fun hh => by simp [entropyOf_isSome, h1, h2] at hh)

/-- **wrong attribute set**: values whose set of normal-form names differs from the schema's are
refused. -/
theorem C11_issue_wrong_attributes_refused {cd : CredDef} {offer : Offer} {req : CredRequest}
    {values : List (String × String)} (h : ¬ SameNames values cd) :
    createCredential cd offer req values = none :=
  refused_of_not (fun hh => h hh.2.2.2.2)

/-- … a **missing** attribute: some schema attribute has no value (under any spelling) -/
theorem C11_issue_missing_attribute_refused {cd : CredDef} {offer : Offer} {req : CredRequest}
    {values : List (String × String)} {a : String} (ha : a ∈ cd.schemaAttrs)
    (hm : ∀ nv ∈ values, commonView nv.1 ≠ commonView a) :
    createCredential cd offer req values = none := by
  apply C11_issue_wrong_attributes_refused
  intro hs
  have : commonView a ∈ valueNames values := (hs _).mpr (List.mem_map_of_mem ha)
  obtain ⟨nv, hnv, e⟩ := List.mem_map.mp this
  exact hm nv hnv e

/-- … an **extra** attribute: some value is for a name that is (under no spelling) in the schema -/
theorem C11_issue_extra_attribute_refused {cd : CredDef} {offer : Offer} {req : CredRequest}
    {values : List (String × String)} {nv : String × String} (hnv : nv ∈ values)
    (hx : ∀ a ∈ cd.schemaAttrs, commonView a ≠ commonView nv.1) :
    createCredential cd offer req values = none := by
  apply C11_issue_wrong_attributes_refused
  intro hs
  have : commonView nv.1 ∈ schemaNames cd :=
    (hs _).mp (List.mem_map.mpr ⟨nv, hnv, rfl⟩)
  obtain ⟨a, ha, e⟩ := List.mem_map.mp this
  exact hx a ha e

/-- … a **renamed** attribute: one entry's name replaced by a name whose normal form is not a
schema attribute's (whatever the other entries are) -/
theorem C11_issue_renamed_attribute_refused {cd : CredDef} {offer : Offer} {req : CredRequest}
    (pre post : List (String × String)) (newName v : String)
    (hx : ∀ a ∈ cd.schemaAttrs, commonView a ≠ commonView newName) :
    createCredential cd offer req (pre ++ (newName, v) :: post) = none :=
  C11_issue_extra_attribute_refused (nv := (newName, v)) (by simp) hx

/-- **case / space variants are accepted**: if the names of the values have, one by one, the same
normal forms as the schema's attribute names (`"First Name"` for `"firstname"`), the attribute-set
condition holds; so with a good request the credential is issued. -/
theorem C11_issue_case_variants_accepted {cd : CredDef} {offer : Offer} {req : CredRequest}
    {values : List (String × String)}
    (hsame : values.map (fun nv => commonView nv.1) = cd.schemaAttrs.map commonView)
    (he : (entropyOf req).isSome = true) (hi : req.blinded.intact = true)
    (hk : req.blinded.key = cd.key) (hn : req.blinded.proofNonce = offer.nonce) :
    SameNames values cd ∧ (createCredential cd offer req values).isSome = true := by
  have hs : SameNames values cd := by
    intro x; unfold valueNames schemaNames; rw [hsame]
  exact ⟨hs, (C11_issue_ok_iff cd offer req values).mpr ⟨he, hi, hk, hn, hs⟩⟩

/-- the attribute-set condition only looks at normal forms: two value lists whose name sets have the
same normal forms are both accepted or both refused -/
theorem C11_issue_depends_on_normal_forms {cd : CredDef} {offer : Offer} {req : CredRequest}
    {values values' : List (String × String)}
    (h : ∀ x, x ∈ valueNames values ↔ x ∈ valueNames values') :
    (createCredential cd offer req values).isSome = (createCredential cd offer req values').isSome := by
  have : SameNames values cd ↔ SameNames values' cd :=
    ⟨fun hs x => (h x).symm.trans (hs x), fun hs x => (h x).trans (hs x)⟩
  rw [Bool.eq_iff_iff, C11_issue_ok_iff, C11_issue_ok_iff, this]

/-- **`create_credential_request` succeeds iff** `CredentialRequest::validate` accepts entropy,
prover DID and the definition's id; it then returns a request whose link secret is blinded for this
definition's key with a correctness proof under the offer's nonce, and metadata carrying the same
blinding factor and the request's own nonce. -/
theorem C11_request_ok_iff (entropy proverDid : Option String) (cd : CredDef) (holder blinding : Nat)
    (reqNonce : String) (offer : Offer) (req : CredRequest) (m : ReqMeta) :
    createCredentialRequest entropy proverDid cd holder blinding reqNonce offer = some (req, m) ↔
      Ident.credReqValid entropy proverDid cd.id = true ∧
      req.entropy = entropy ∧ req.proverDid = proverDid ∧
      req.blinded = { key := cd.key, holder := holder, blinding := blinding,
                      proofNonce := offer.nonce, intact := true } ∧
      req.nonce = reqNonce ∧ m.blinding = blinding ∧ m.nonce = reqNonce := by
  obtain ⟨e, p, b, n⟩ := req
  obtain ⟨mb, mn⟩ := m
  simp only [createCredentialRequest, Option.ite_none_right_eq_some, Option.some.injEq, Prod.mk.injEq,
    CredRequest.mk.injEq, ReqMeta.mk.injEq, eq_comm, and_assoc]

/-- success alone, with the grammar of C20 spelled out: the definition id is valid and either
entropy is given without a prover DID, or no entropy is given, the definition id has the legacy
form and the prover DID is a URI or a legacy DID. -/
theorem C11_request_succeeds_iff (entropy proverDid : Option String) (cd : CredDef)
    (holder blinding : Nat) (reqNonce : String) (offer : Offer) :
    (createCredentialRequest entropy proverDid cd holder blinding reqNonce offer).isSome = true ↔
      Ident.idValid .credDef cd.id = true ∧
      ((entropy.isSome = true ∧ proverDid = none) ∨
       (entropy = none ∧ Ident.IsLegacyCredDefId cd.id.toList ∧
          ∃ d, proverDid = some d ∧ (Ident.IsUri d.toList ∨ Ident.IsLegacyDid d.toList))) := by
  rw [← Ident.C20_credreq_valid_iff]
  unfold createCredentialRequest
  cases Ident.credReqValid entropy proverDid cd.id <;> simp

/-- **an honest request answers its offer**: the issuer accepts the request made for `offer` and
`cd`, with `offer` and `cd`, for every value list naming exactly the schema's attributes … -/
theorem C11_honest_request_accepted {entropy proverDid : Option String} {cd : CredDef}
    {holder blinding : Nat} {reqNonce : String} {offer : Offer} {req : CredRequest} {m : ReqMeta}
    (hreq : createCredentialRequest entropy proverDid cd holder blinding reqNonce offer = some (req, m))
    {values : List (String × String)} (hs : SameNames values cd) :
    (createCredential cd offer req values).isSome = true := by
  obtain ⟨hv, rfl, rfl, hb, _⟩ := (C11_request_ok_iff ..).mp hreq
  refine (C11_issue_ok_iff cd offer req values).mpr ⟨?_, by rw [hb], by rw [hb], by rw [hb], hs⟩
  rw [entropyOf_isSome]
  rcases Ident.C20_credreq_exactly_one hv with ⟨h, _⟩ | ⟨_, h⟩ <;> simp [h]

/-- … and refuses it when presented with any offer that has another nonce, or for any credential
definition with another key. -/
theorem C11_honest_request_bound {entropy proverDid : Option String} {cd : CredDef}
    {holder blinding : Nat} {reqNonce : String} {offer : Offer} {req : CredRequest} {m : ReqMeta}
    (hreq : createCredentialRequest entropy proverDid cd holder blinding reqNonce offer = some (req, m))
    (values : List (String × String)) :
    (∀ offer' : Offer, offer'.nonce ≠ offer.nonce → createCredential cd offer' req values = none) ∧
    (∀ cd' : CredDef, cd'.key ≠ cd.key → createCredential cd' offer req values = none) := by
  obtain ⟨_, _, _, hb, _⟩ := (C11_request_ok_iff ..).mp hreq
  constructor
  · intro offer' h
    exact C11_issue_replayed_request_refused values (by rw [hb]; exact fun e => h e.symm)
  · intro cd' h
    exact C11_issue_foreign_request_refused values (by rw [hb]; exact fun e => h e.symm)

/-- **`process_credential` succeeds iff** the signature is intact, was made by this credential
definition's key, for this link secret, over the blinding factor and under the request nonce kept
in the metadata, and the signed attribute map equals the normalised values the credential shows
(same entries, no name with two values). -/
theorem C11_process_ok_iff (c : Credential) (m : ReqMeta) (holder : Nat) (cd : CredDef) :
    processCredential c m holder cd = true ↔
      c.sig.intact = true ∧ c.sig.key = cd.key ∧ c.sig.holder = holder ∧
      c.sig.blinding = m.blinding ∧ c.sig.nonce = m.nonce ∧ SameMap c.sig.attrs (normAttrs c.values) := by
  simp only [processCredential, Bool.and_eq_true, beq_iff_eq, sameAttrs_iff, SameMap, Functional,
    and_assoc]

section honest
variable {entropy proverDid : Option String} {cd : CredDef} {holder blinding : Nat}
  {reqNonce : String} {offer : Offer} {req : CredRequest} {m : ReqMeta}
  {values : List (String × String)} {c : Credential}

theorem honest_process_iff
    (hreq : createCredentialRequest entropy proverDid cd holder blinding reqNonce offer = some (req, m))
    (hiss : createCredential cd offer req values = some c)
    {c' : Credential} (hsig : c'.sig = c.sig) {m' : ReqMeta} {holder' : Nat} {cd' : CredDef} :
    processCredential c' m' holder' cd' = true ↔
      cd.key = cd'.key ∧ holder = holder' ∧ blinding = m'.blinding ∧ reqNonce = m'.nonce ∧
      SameMap (normAttrs values) (normAttrs c'.values) := by
  obtain ⟨_, _, _, hb, hn, _, _⟩ := (C11_request_ok_iff ..).mp hreq
  rw [C11_process_ok_iff, hsig, (C11_issue_returns hiss).2, hb, hn]
  simp only [true_and]

/-- **honest round trip**: the holder makes a request for `(cd, offer)`, the issuer answers it with
a credential for `values` whose names have pairwise distinct normal forms, and the holder processes
it with the metadata of that request, the same link secret and the same definition: processing
succeeds. (The distinctness hypothesis is needed in the model: see the example at the end.) -/
theorem C11_honest_roundtrip
    (hreq : createCredentialRequest entropy proverDid cd holder blinding reqNonce offer = some (req, m))
    (hiss : createCredential cd offer req values = some c)
    (hnd : (values.map (fun nv => commonView nv.1)).Nodup) :
    processCredential c m holder cd = true := by
  obtain ⟨_, _, _, _, _, hmb, hmn⟩ := (C11_request_ok_iff ..).mp hreq
  rw [honest_process_iff hreq hiss rfl, (C11_issue_returns hiss).1]
  exact ⟨rfl, rfl, hmb.symm, hmn.symm, fun _ => Iff.rfl,
    functional_of_nodup_keys (by rw [normAttrs_keys]; exact hnd)⟩

/-- **another holder**: processing with another link secret fails. -/
theorem C11_tamper_rejected_other_holder
    (hreq : createCredentialRequest entropy proverDid cd holder blinding reqNonce offer = some (req, m))
    (hiss : createCredential cd offer req values = some c)
    {holder' : Nat} (h : holder' ≠ holder) :
    processCredential c m holder' cd = false :=
  Bool.eq_false_iff.mpr fun hp => h ((honest_process_iff hreq hiss rfl).mp hp).2.1.symm

/-- **another definition key**: processing against a credential definition with another key fails. -/
theorem C11_tamper_rejected_other_key
    (hreq : createCredentialRequest entropy proverDid cd holder blinding reqNonce offer = some (req, m))
    (hiss : createCredential cd offer req values = some c)
    {cd' : CredDef} (h : cd'.key ≠ cd.key) :
    processCredential c m holder cd' = false :=
  Bool.eq_false_iff.mpr fun hp => h ((honest_process_iff hreq hiss rfl).mp hp).1.symm

/-- **metadata of another request (blinding factor)**: processing with metadata holding another
blinding factor fails. -/
theorem C11_tamper_rejected_other_blinding
    (hreq : createCredentialRequest entropy proverDid cd holder blinding reqNonce offer = some (req, m))
    (hiss : createCredential cd offer req values = some c)
    {m' : ReqMeta} (h : m'.blinding ≠ blinding) :
    processCredential c m' holder cd = false :=
  Bool.eq_false_iff.mpr fun hp => h ((honest_process_iff hreq hiss rfl).mp hp).2.2.1.symm

/-- **metadata of another request (nonce)**: processing with metadata holding another request nonce
fails. -/
theorem C11_tamper_rejected_other_nonce
    (hreq : createCredentialRequest entropy proverDid cd holder blinding reqNonce offer = some (req, m))
    (hiss : createCredential cd offer req values = some c)
    {m' : ReqMeta} (h : m'.nonce ≠ reqNonce) :
    processCredential c m' holder cd = false :=
  Bool.eq_false_iff.mpr fun hp => h ((honest_process_iff hreq hiss rfl).mp hp).2.2.2.1.symm

/-- the two together, for the metadata of any other request the holder made (for whatever
definition and offer) with another blinding factor or another nonce -/
theorem C11_tamper_rejected_other_request_metadata
    (hreq : createCredentialRequest entropy proverDid cd holder blinding reqNonce offer = some (req, m))
    (hiss : createCredential cd offer req values = some c)
    {entropy' proverDid' : Option String} {cd' : CredDef} {holder' blinding' : Nat} {reqNonce' : String}
    {offer' : Offer} {req' : CredRequest} {m' : ReqMeta}
    (hreq' : createCredentialRequest entropy' proverDid' cd' holder' blinding' reqNonce' offer' = some (req', m'))
    (h : blinding' ≠ blinding ∨ reqNonce' ≠ reqNonce) :
    processCredential c m' holder cd = false := by
  obtain ⟨_, _, _, _, _, hmb, hmn⟩ := (C11_request_ok_iff ..).mp hreq'
  rcases h with h | h
  · exact C11_tamper_rejected_other_blinding hreq hiss (by rw [hmb]; exact h)
  · exact C11_tamper_rejected_other_nonce hreq hiss (by rw [hmn]; exact h)

/-- **a changed value**: a credential with the honest signature but showing, for some attribute
(under any spelling of its name), an encoded value other than the signed one is rejected. -/
theorem C11_tamper_rejected_changed_value
    (hreq : createCredentialRequest entropy proverDid cd holder blinding reqNonce offer = some (req, m))
    (hiss : createCredential cd offer req values = some c)
    {c' : Credential} (hsig : c'.sig = c.sig)
    {n v n' v' : String} (hv : (n, v) ∈ values) (hv' : (n', v') ∈ c'.values)
    (hname : commonView n' = commonView n) (hne : v' ≠ v) :
    processCredential c' m holder cd = false := by
  rw [Bool.eq_false_iff]; intro hp
  obtain ⟨hs, hf⟩ := ((honest_process_iff hreq hiss hsig).mp hp).2.2.2.2
  have h1 : (commonView n, v) ∈ normAttrs values := mem_normAttrs.mpr ⟨_, hv, rfl⟩
  have h2 : (commonView n, v') ∈ normAttrs values :=
    (hs _).mpr (mem_normAttrs.mpr ⟨_, hv', by rw [hname]⟩)
  exact hne (hf _ _ _ h2 h1)

/-- a credential with the honest signature that **drops** a signed attribute is rejected -/
theorem C11_tamper_rejected_dropped_attribute
    (hreq : createCredentialRequest entropy proverDid cd holder blinding reqNonce offer = some (req, m))
    (hiss : createCredential cd offer req values = some c)
    {c' : Credential} (hsig : c'.sig = c.sig)
    {n v : String} (hv : (n, v) ∈ values) (hdrop : ∀ nv ∈ c'.values, commonView nv.1 ≠ commonView n) :
    processCredential c' m holder cd = false := by
  rw [Bool.eq_false_iff]; intro hp
  obtain ⟨hs, _⟩ := ((honest_process_iff hreq hiss hsig).mp hp).2.2.2.2
  obtain ⟨nv, hnv, e⟩ := mem_normAttrs.mp ((hs _).mp (mem_normAttrs.mpr ⟨_, hv, rfl⟩))
  exact hdrop nv hnv (Prod.mk.inj e).1.symm

/-- a credential with the honest signature that **adds** an attribute that was not signed is
rejected -/
theorem C11_tamper_rejected_added_attribute
    (hreq : createCredentialRequest entropy proverDid cd holder blinding reqNonce offer = some (req, m))
    (hiss : createCredential cd offer req values = some c)
    {c' : Credential} (hsig : c'.sig = c.sig)
    {nv' : String × String} (hv' : nv' ∈ c'.values) (hadd : ∀ nv ∈ values, commonView nv.1 ≠ commonView nv'.1) :
    processCredential c' m holder cd = false := by
  rw [Bool.eq_false_iff]; intro hp
  obtain ⟨hs, _⟩ := ((honest_process_iff hreq hiss hsig).mp hp).2.2.2.2
  obtain ⟨nv, hnv, e⟩ := mem_normAttrs.mp ((hs _).mpr (mem_normAttrs.mpr ⟨_, hv', rfl⟩))
  exact hadd nv hnv (Prod.mk.inj e).1.symm

end honest

/-- **modified signature**: a credential whose signature or signature correctness proof was modified
(`intact = false`) is rejected — whatever else holds; in particular the honest credential with
`intact` cleared. -/
theorem C11_tamper_rejected_not_intact {c : Credential} (m : ReqMeta) (holder : Nat) (cd : CredDef)
    (h : c.sig.intact = false) : processCredential c m holder cd = false := by
  rw [Bool.eq_false_iff]; intro hp
  rw [((C11_process_ok_iff ..).mp hp).1] at h; cases h

/-- the instance named in the property: the honest credential with `intact` cleared -/
theorem C11_tamper_rejected_honest_not_intact (c : Credential) (m : ReqMeta) (holder : Nat) (cd : CredDef) :
    processCredential { c with sig := { c.sig with intact := false } } m holder cd = false :=
  C11_tamper_rejected_not_intact m holder cd rfl

/-- **a processed credential is presentable**: if processing succeeds, then what the issuer key
really signed (`c.sig`, ghost) is the ideal credential `{ key := cd.key, attrs := c.sig.attrs,
holder := holder, rev := none }` the holder believes to hold: signed by the key of the credential
definition the holder will name in presentations, for the holder's own link secret, and with a
signed value under the normal form of every name the credential shows, equal to the encoded value
shown (and nothing else signed). These are exactly the facts the presentation theorems ask of a
credential — `credDefsAgree`, `valuesSigned` and the common link secret in `Props/C04Defs.lean` —
so the link to "always yields verifiable presentations" is C04 (`C04_legacy`, `C04_w3c`). -/
theorem C11_processed_is_presentable {c : Credential} {m : ReqMeta} {holder : Nat} {cd : CredDef}
    (h : processCredential c m holder cd = true) :
    ({ key := c.sig.key, attrs := c.sig.attrs, holder := c.sig.holder, rev := none } : IdealCL.SymCred) =
        { key := cd.key, attrs := c.sig.attrs, holder := holder, rev := none } ∧
      SameMap c.sig.attrs (normAttrs c.values) ∧
      (∀ nv ∈ c.values, c.sig.attrs.lookup (commonView nv.1) = some nv.2) ∧
      (∀ k v, c.sig.attrs.lookup k = some v → ∃ nv ∈ c.values, commonView nv.1 = k ∧ nv.2 = v) := by
  obtain ⟨_, hk, hh, _, _, hs⟩ := (C11_process_ok_iff ..).mp h
  refine ⟨by rw [hk, hh], hs, ?_, ?_⟩
  · intro nv hnv
    obtain ⟨_, h2⟩ := (sameAttrs_iff_lookup _ _).mp ((sameAttrs_iff _ _).mpr hs)
    exact h2 (commonView nv.1, nv.2) (mem_normAttrs.mpr ⟨nv, hnv, rfl⟩)
  · intro k v hl
    obtain ⟨nv, hnv, e⟩ := mem_normAttrs.mp ((hs.1 _).mp (List.mem_of_lookup hl))
    exact ⟨nv, hnv, (Prod.mk.inj e).1.symm, (Prod.mk.inj e).2.symm⟩

/-- in the form of C04's `valuesSigned`, for canonically encoded values: the signed value under the
normal form of each shown name is `normalize_encoded_attr` of the shown encoded value -/
theorem C11_processed_values_signed {c : Credential} {m : ReqMeta} {holder : Nat} {cd : CredDef}
    (h : processCredential c m holder cd = true)
    (hc : ∀ nv ∈ c.values, ∃ raw, nv.2 = Encode.encode raw) :
    ∀ nv ∈ c.values, c.sig.attrs.lookup (commonView nv.1) = some (Encode.normalizeEnc nv.2) := by
  intro nv hnv
  obtain ⟨raw, hr⟩ := hc nv hnv
  rw [(C11_processed_is_presentable h).2.2.1 nv hnv, hr, Encode.normalizeEnc_encode]

private def cd0 : CredDef := { id := "mock:uri", key := 1, schemaAttrs := ["First Name", "age"] }
private def offer0 : Offer := { nonce := "111" }
private def vals0 : List (String × String) := [("firstname", "42"), ("AGE", "28")]
private def blinded0 : Blinded := { key := 1, holder := 7, blinding := 9, proofNonce := "111", intact := true }
private def req0 : CredRequest := { entropy := some "e", proverDid := none, blinded := blinded0, nonce := "222" }
private def meta0 : ReqMeta := { blinding := 9, nonce := "222" }
private def sig0 : Signature :=
  { key := 1, attrs := [("firstname", "42"), ("age", "28")], holder := 7, blinding := 9, nonce := "222", intact := true }
private def cred0 : Credential := { values := vals0, sig := sig0 }

example : commonView "First Name" = "firstname" := by decide +kernel
example : commonView "AGE" = commonView "a g e" := by decide +kernel
example : createCredentialRequest (some "e") none cd0 7 9 "222" offer0 = some (req0, meta0) := by
  rw [C11_request_ok_iff]
  exact ⟨by decide +kernel, rfl, rfl, rfl, rfl, rfl, rfl⟩
private theorem issued0 : createCredential cd0 offer0 req0 vals0 = some cred0 :=
  createCredential_eq_some_iff.mpr ⟨(C11_issue_ok_iff ..).mp (by decide +kernel),
    congrArg (Credential.mk vals0) (by decide +kernel)⟩
example : createCredential cd0 offer0 req0 vals0 = some cred0 := issued0
example : (vals0.map (fun nv => commonView nv.1)).Nodup := by decide +kernel
example : processCredential cred0 meta0 7 cd0 = true := by decide +kernel
example : (createCredential cd0 offer0 req0 vals0).isSome = true := by rw [issued0]; rfl
example : (createCredential cd0 offer0 req0 [("firstname", "42")]).isSome = false := by decide +kernel
example : (createCredential cd0 offer0 req0 (("x", "1") :: vals0)).isSome = false := by decide +kernel
example : (createCredential cd0 offer0 req0 [("surname", "42"), ("age", "28")]).isSome = false := by decide +kernel
example : (createCredential cd0 { nonce := "112" } req0 vals0).isSome = false := by decide +kernel
example : (createCredential { cd0 with key := 2 } offer0 req0 vals0).isSome = false := by decide +kernel
example : (createCredential cd0 offer0 { req0 with blinded := { blinded0 with intact := false } } vals0).isSome = false := by
  decide +kernel
example : (createCredential cd0 offer0 { req0 with entropy := none } vals0).isSome = false := by decide +kernel
example : (createCredentialRequest none (some "DXoTtQJNtXtiwWaZAK3rB1")
    { cd0 with id := "DXoTtQJNtXtiwWaZAK3rB1:3:CL:98153:default" } 7 9 "222" offer0).isSome = true := by
  simp [createCredentialRequest, Ident.credReqValid_proverDid]
example : (createCredentialRequest none (some "DXoTtQJNtXtiwWaZAK3rB1") cd0 7 9 "222" offer0).isSome = false := by
  decide +kernel
example : processCredential cred0 meta0 8 cd0 = false := by decide +kernel
example : processCredential cred0 meta0 7 { cd0 with key := 2 } = false := by decide +kernel
example : processCredential cred0 { meta0 with blinding := 10 } 7 cd0 = false := by decide +kernel
example : processCredential cred0 { meta0 with nonce := "223" } 7 cd0 = false := by decide +kernel
example : processCredential { cred0 with values := [("firstname", "43"), ("AGE", "28")] } meta0 7 cd0 = false := by
  decide +kernel
example : processCredential { cred0 with values := [("firstname", "42")] } meta0 7 cd0 = false := by decide +kernel
example : processCredential { cred0 with sig := { sig0 with intact := false } } meta0 7 cd0 = false := by decide +kernel
-- the distinctness hypothesis of `C11_honest_roundtrip` is needed in the model: two spellings of one
-- name with different values pass the issuer's set comparison, and the credential then fails processing
example :
    (createCredential { cd0 with schemaAttrs := ["name"] } offer0 req0 [("Name", "1"), ("name", "2")]).isSome = true ∧
    processCredential
      { values := [("Name", "1"), ("name", "2")],
        sig := { sig0 with attrs := normAttrs [("Name", "1"), ("name", "2")] } } meta0 7
      { cd0 with schemaAttrs := ["name"] } = false := by decide +kernel

end AnonModel.Issuance
