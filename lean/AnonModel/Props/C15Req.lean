import AnonModel.Lemmas.WireReq
/-!
# C15 (presentation requests) — a request survives its wire format with identical meaning

"Every exchanged object survives its wire format with identical meaning … serialising the
deserialised object again yields the same document."

This file covers `PresentationRequest` completely: the hand-written `Deserialize` / `Serialize`
of `data_types/pres_request.rs` *and* the serde-derived codecs of `PresentationRequestPayload`,
`AttributeInfo`, `PredicateInfo`, `PredicateTypes`, `NonRevokedInterval` (model:
`Model/WireReq.lean`; nonce, `ver` and restrictions are the models of `Model/Wire.lean` and
`Model/Query.lean`). The property theorems and the fixtures of the examples (`sampleReq`,
`minimalDoc`, `minimalReq`); helper lemmas are in `Lemmas/WireReq.lean`.

`WfReq r` (`Lemmas/WireReq.lean`, decidable) states the invariants of the Rust type that the Lean
structure does not carry: the nonce is a non-empty digit string, the referents are pairwise distinct
among the attributes and among the predicates, every restriction is `Good` (the image class of
the restriction parser, C16), interval bounds are `u64`s and `p_value`s are `i32`s.
-/
namespace AnonModel.WireReq
open AnonModel.Json
open AnonModel.Query (Query parseRestriction print Good)
open AnonModel.Interval (Ivl)

/-! ## deserialise ∘ serialise = id -/

/-- **de ∘ ser = id**: every well-formed request, written with `Serialize for PresentationRequest`
and read back with `Deserialize for PresentationRequest`, is the same request — nonce, name,
version, every referent with its name / names / restrictions / local interval, every predicate
with its type and value, the request-wide interval, and the version tag. -/
theorem C15_req_de_ser (r : ReqDoc) (h : WfReq r) : reqDe (reqSer r) = some r :=
  reqDe_reqSer h.1 h.2.2.2.1 h.2.2.2.2.1 h.2.2.2.2.2

/-- the same, member by member: an interval, an attribute entry and a predicate entry each
survive on their own -/
theorem C15_req_de_ser_members :
    (∀ i : Ivl, IvlOk i → ivlDe (ivlSer i) = some i) ∧
    (∀ a : AttrInfo, AttrOk a → attrDe (attrSer a) = some a) ∧
    (∀ p : PredInfo, PredOk p → predDe (predSer p) = some p) :=
  ⟨fun _ h => ivlDe_ivlSer h, fun _ h => attrDe_attrSer h, fun _ h => predDe_predSer h⟩

/-- **an interval without bounds is kept**: `non_revoked = Some(NonRevokedInterval { from: None,
to: None })` is written as `{"from":null,"to":null}` — not as `null` — and comes back as
`Some(..)`, not as `None`; request-wide, on an attribute and on a predicate. -/
theorem C15_req_empty_interval_kept :
    ivlSer ⟨none, none⟩ = .obj [("from", .null), ("to", .null)] ∧
    ivlDe (ivlSer ⟨none, none⟩) = some ⟨none, none⟩ ∧
    optVal ivlDe (optSer ivlSer (some ⟨none, none⟩)) = some (some ⟨none, none⟩) ∧
    (∀ r : ReqDoc, WfReq r → r.nonRevoked = some ⟨none, none⟩ →
      (reqDe (reqSer r)).map (·.nonRevoked) = some (some ⟨none, none⟩)) ∧
    (∀ a : AttrInfo, AttrOk a → a.nonRevoked = some ⟨none, none⟩ →
      (attrDe (attrSer a)).map (·.nonRevoked) = some (some ⟨none, none⟩)) ∧
    (∀ p : PredInfo, PredOk p → p.nonRevoked = some ⟨none, none⟩ →
      (predDe (predSer p)).map (·.nonRevoked) = some (some ⟨none, none⟩)) := by
  refine ⟨rfl, rfl, rfl, ?_, ?_, ?_⟩
  · intro r h e; rw [C15_req_de_ser r h, Option.map_some, e]
  · intro a h e; rw [attrDe_attrSer h, Option.map_some, e]
  · intro p h e; rw [predDe_predSer h, Option.map_some, e]

/-- **a restriction is kept**: `restrictions = Some(q)` comes back as `Some(q)` for every `Good`
query `q`; in particular the empty conjunction `And([])` is written as `{}` and comes back as
`Some(And([]))`, not as `None`. -/
theorem C15_req_restrictions_kept :
    (∀ q : Query, Good q → optVal parseRestriction (optSer print (some q)) = some (some q)) ∧
    optSer print (some (.and [])) = .obj [] ∧
    optVal parseRestriction (optSer print (some (.and []))) = some (some (.and [])) ∧
    (∀ a : AttrInfo, AttrOk a → ∀ q, a.restrictions = some q →
      (attrDe (attrSer a)).map (·.restrictions) = some (some q)) ∧
    (∀ p : PredInfo, PredOk p → ∀ q, p.restrictions = some q →
      (predDe (predSer p)).map (·.restrictions) = some (some q)) := by
  refine ⟨fun q h => optQuery_roundtrip (o := some q) h, rfl, rfl, ?_, ?_⟩
  · intro a h q e; rw [attrDe_attrSer h, Option.map_some, e]
  · intro p h q e; rw [predDe_predSer h, Option.map_some, e]

/-! ## serialise ∘ deserialise is stable -/

/-- **what arrives re-serialises to something that reads as the same request**, and it is well
formed (so `C15_req_de_ser` applies to everything that was ever parsed). `j.WF` — every object of
the document has strictly increasing, hence unique, keys: what `serde_json::Value` (a `BTreeMap`)
guarantees — is used for the distinctness of the referents only. Moreover the re-serialised
document is again `WF`. -/
theorem C15_req_ser_de {j : Json} {r : ReqDoc} (hj : j.WF = true) (h : reqDe j = some r) :
    reqDe (reqSer r) = some r ∧ WfReq r ∧ (reqSer r).WF = true := by
  have hw := reqDe_wf hj h
  have ⟨ha, hp⟩ := reqDe_keys_sorted hj h
  exact ⟨C15_req_de_ser r hw, hw, reqSer_wf r ha hp⟩

/-- the round trip alone needs no hypothesis on the document: for *every* JSON value `j`
(duplicate keys in an association list included), if it reads as `r` then `reqSer r` reads as `r` -/
theorem C15_req_ser_de_any {j : Json} {r : ReqDoc} (h : reqDe j = some r) :
    reqDe (reqSer r) = some r := by
  obtain ⟨h1, h2, h3, h4⟩ := reqDe_wf_weak h
  exact reqDe_reqSer h1 h2 h3 h4

/-- hence `ser ∘ de` is idempotent on documents: reading, writing, reading and writing again
gives the document of the first writing -/
theorem C15_req_ser_de_idempotent {j : Json} {r : ReqDoc} (h : reqDe j = some r) :
    (reqDe (reqSer r)).map reqSer = some (reqSer r) := by
  rw [C15_req_ser_de_any h]; rfl

/-- what `reqSer` writes is a `BTreeMap`-shaped value whenever the two referent lists are
strictly increasing -/
theorem C15_req_ser_wellformed (r : ReqDoc) (ha : keysSorted (r.attrs.map (·.1)) = true)
    (hp : keysSorted (r.preds.map (·.1)) = true) : (reqSer r).WF = true :=
  reqSer_wf r ha hp

/-! ## missing member vs `null` vs `{}` -/

/-- **`non_revoked` of the request**: let `m` be any object *without* the member and `m'` any
object that agrees with `m` on the other six known members (`reqKeys`; unknown members are
free). Then (1) `m` reads with `non_revoked = None`; (2) if `m'` has `"non_revoked": null` it
reads exactly like `m`; (3) if `m'` has `"non_revoked": {}` and `m` reads as `r`, then `m'` reads
as `r` with `non_revoked = Some({from: None, to: None})`. -/
theorem C15_req_missing_vs_null (m m' : List (String × Json))
    (hsame : ∀ k ∈ reqKeys, k ≠ "non_revoked" → m'.lookup k = m.lookup k)
    (hmiss : m.lookup "non_revoked" = none) :
    (∀ r, reqDe (.obj m) = some r → r.nonRevoked = none) ∧
    (m'.lookup "non_revoked" = some .null → reqDe (.obj m') = reqDe (.obj m)) ∧
    (m'.lookup "non_revoked" = some (.obj []) → ∀ r, reqDe (.obj m) = some r →
      reqDe (.obj m') = some { r with nonRevoked := some ⟨none, none⟩ }) := by
  simp [reqKeys] at hsame
  refine ⟨fun r h => ?_, fun hnull => Option.ext fun r => ?_, fun hobj r h => ?_⟩
  · obtain ⟨_, _, _, _, _, _, h7⟩ := reqDe_obj_eq_some_iff.mp h
    rw [hmiss] at h7; exact (Option.some.inj h7).symm
  · simp only [reqDe_obj_eq_some_iff, hsame, hnull, hmiss]
    rfl
  · obtain ⟨h0, h1, h2, h3, h4, h5, _⟩ := reqDe_obj_eq_some_iff.mp h
    simp only [reqDe_obj_eq_some_iff, hsame, hobj]
    exact ⟨h0, h1, h2, h3, h4, h5, rfl⟩

/-- the same for the local interval of a requested attribute -/
theorem C15_req_missing_vs_null_local (m m' : List (String × Json))
    (hsame : ∀ k ∈ ["name", "names", "restrictions"], m'.lookup k = m.lookup k)
    (hmiss : m.lookup "non_revoked" = none) :
    (∀ a, attrDe (.obj m) = some a → a.nonRevoked = none) ∧
    (m'.lookup "non_revoked" = some .null → attrDe (.obj m') = attrDe (.obj m)) ∧
    (m'.lookup "non_revoked" = some (.obj []) → ∀ a, attrDe (.obj m) = some a →
      attrDe (.obj m') = some { a with nonRevoked := some ⟨none, none⟩ }) := by
  simp at hsame
  refine ⟨fun a h => ?_, fun hnull => Option.ext fun a => ?_, fun hobj a h => ?_⟩
  · obtain ⟨_, _, _, h4⟩ := attrDe_obj_eq_some_iff.mp h
    rw [hmiss] at h4; exact (Option.some.inj h4).symm
  · simp only [attrDe_obj_eq_some_iff, hsame, hnull, hmiss]
    rfl
  · obtain ⟨h1, h2, h3, _⟩ := attrDe_obj_eq_some_iff.mp h
    simp only [attrDe_obj_eq_some_iff, hsame, hobj]
    exact ⟨h1, h2, h3, rfl⟩

/-- the three cases on the interval codec itself, and the bounds: a missing bound and a `null`
bound are both `None`; the array form `[from, to]` is accepted too (serde reads a struct from a
sequence); a bound that is not a `u64` (negative, `2^64`, string) is an error -/
theorem C15_req_interval_forms :
    optMember ivlDe none = some none ∧
    optMember ivlDe (some .null) = some none ∧
    optMember ivlDe (some (.obj [])) = some (some ⟨none, none⟩) ∧
    ivlDe (.obj [("from", .null), ("to", .num 5)]) = some ⟨none, some 5⟩ ∧
    ivlDe (.obj [("to", .num 5)]) = some ⟨none, some 5⟩ ∧
    ivlDe (.arr [.num 1, .null]) = some ⟨some 1, none⟩ ∧
    ivlDe (.arr [.num 1]) = none ∧
    ivlDe (.obj [("from", .num (-1))]) = none ∧
    ivlDe (.obj [("from", .num 18446744073709551615)]) = some ⟨some 18446744073709551615, none⟩ ∧
    ivlDe (.obj [("from", .num 18446744073709551616)]) = none ∧
    ivlDe (.obj [("from", .str "1")]) = none := by
  refine ⟨rfl, rfl, rfl, ?_, ?_, ?_, ?_, ?_, ?_, ?_, ?_⟩ <;> decide +kernel

/-- **`ver`**: member absent, `null` or `"1.0"` → version 1; `"2.0"` → version 2; any other string
(`"3.0"`, `"1"`, `"2.00"`) → error; anything that is neither `null` nor a string (a number such as
`2.0`, a boolean, an array, an object) → error — whatever the rest of the object is. -/
theorem C15_req_ver (m : List (String × Json)) :
    ((m.lookup "ver" = none ∨ m.lookup "ver" = some .null ∨ m.lookup "ver" = some (.str "1.0")) →
      ∀ r, reqDe (.obj m) = some r → r.v2 = false) ∧
    (m.lookup "ver" = some (.str "2.0") → ∀ r, reqDe (.obj m) = some r → r.v2 = true) ∧
    (∀ s, m.lookup "ver" = some (.str s) → s ≠ "1.0" → s ≠ "2.0" → reqDe (.obj m) = none) ∧
    (∀ v, m.lookup "ver" = some v → v ≠ .null → (∀ s, v ≠ .str s) → reqDe (.obj m) = none) := by
  have hv : ∀ r, reqDe (.obj m) = some r →
      (Wire.verDe ((m.lookup "ver").map toW)).map verFlag = some r.v2 :=
    fun r h => (reqDe_obj_eq_some_iff.mp h).1
  refine ⟨fun e r h => ?_, fun e r h => ?_, fun s e h1 h2 => ?_, fun v e hn hs => ?_⟩
  · have := hv r h
    rcases e with e | e | e <;> rw [e] at this <;> exact (Option.some.inj this).symm
  · have := hv r h
    rw [e] at this; exact (Option.some.inj this).symm
  · simp [Option.eq_none_iff_forall_ne_some, reqDe_obj_eq_some_iff, e, toW, Wire.verDe, h1, h2]
  · cases v with
    | null => exact absurd rfl hn
    | str s => exact absurd rfl (hs s)
    | _ => simp [Option.eq_none_iff_forall_ne_some, reqDe_obj_eq_some_iff, e, toW, Wire.verDe]

/-- **the tag is only a tag**: if `m` reads as `r` and `m'` agrees with `m` on the other six known
members, then `m'` reads as `r` with the version its own `ver` member selects — acceptance of
the payload and its content do not depend on the version. -/
theorem C15_req_ver_only_tag (m m' : List (String × Json)) (r : ReqDoc)
    (hsame : ∀ k ∈ reqKeys, k ≠ "ver" → m'.lookup k = m.lookup k) (h : reqDe (.obj m) = some r) :
    ((m'.lookup "ver" = none ∨ m'.lookup "ver" = some .null ∨ m'.lookup "ver" = some (.str "1.0")) →
      reqDe (.obj m') = some { r with v2 := false }) ∧
    (m'.lookup "ver" = some (.str "2.0") → reqDe (.obj m') = some { r with v2 := true }) := by
  simp [reqKeys] at hsame
  obtain ⟨_, h⟩ := reqDe_obj_eq_some_iff.mp h
  simp only [reqDe_obj_eq_some_iff, hsame]
  constructor
  · intro hv
    refine ⟨?_, h⟩
    rcases hv with e | e | e <;> rw [e] <;> rfl
  · intro hv
    rw [hv]
    exact ⟨rfl, h⟩

/-- serialising always writes the member: `"1.0"` for version 1, `"2.0"` for version 2 -/
theorem C15_req_ver_written (r : ReqDoc) :
    ∃ m, reqSer r = .obj m ∧ m.lookup "ver" = some (.str (if r.v2 then "2.0" else "1.0")) :=
  ⟨_, rfl, rfl⟩

/-- unknown members are ignored at the top level: two objects that agree on the seven known
members read alike -/
theorem C15_req_unknown_members_ignored (m m' : List (String × Json))
    (h : ∀ k ∈ reqKeys, m'.lookup k = m.lookup k) : reqDe (.obj m') = reqDe (.obj m) := by
  simp [reqKeys] at h
  simp only [reqDe, h]

/-- `nonce`, `name`, `version` are required; the two maps default to empty; everything that is
not an object is rejected (the array form of a struct cannot succeed at the top level) -/
theorem C15_req_required_members (m : List (String × Json)) :
    (m.lookup "nonce" = none → reqDe (.obj m) = none) ∧
    (m.lookup "name" = none → reqDe (.obj m) = none) ∧
    (m.lookup "version" = none → reqDe (.obj m) = none) ∧
    (m.lookup "requested_attributes" = none → ∀ r, reqDe (.obj m) = some r → r.attrs = []) ∧
    (m.lookup "requested_predicates" = none → ∀ r, reqDe (.obj m) = some r → r.preds = []) ∧
    (m.lookup "requested_attributes" = some .null → reqDe (.obj m) = none) ∧
    (∀ j, (∀ m, j ≠ .obj m) → reqDe j = none) := by
  -- the equation of the member in `reqDe_obj_eq_some_iff`; where the request is rejected it reads
  -- `none = some _`
  refine ⟨fun e => ?_, fun e => ?_, fun e => ?_, fun e r h => ?_, fun e r h => ?_, fun e => ?_, fun j hj => ?_⟩
  · simp [Option.eq_none_iff_forall_ne_some, reqDe_obj_eq_some_iff, e, reqMember]
  · simp [Option.eq_none_iff_forall_ne_some, reqDe_obj_eq_some_iff, e, reqMember]
  · simp [Option.eq_none_iff_forall_ne_some, reqDe_obj_eq_some_iff, e, reqMember]
  · obtain ⟨_, _, _, _, h4, _⟩ := reqDe_obj_eq_some_iff.mp h
    rw [e] at h4; exact (Option.some.inj h4).symm
  · obtain ⟨_, _, _, _, _, h5, _⟩ := reqDe_obj_eq_some_iff.mp h
    rw [e] at h5; exact (Option.some.inj h5).symm
  · simp [Option.eq_none_iff_forall_ne_some, reqDe_obj_eq_some_iff, e, mapMember]
  · cases j with
    | obj m => exact absurd rfl (hj m)
    | _ => rfl

/-- `p_value` is an `i32`, `p_type` one of the four operators — as a string or, the code as it
is, as the single-key object `{">=": null}` serde accepts for a unit variant -/
theorem C15_req_predicate_leaves :
    i32De (.num 2147483647) = some 2147483647 ∧ i32De (.num 2147483648) = none ∧
    i32De (.num (-2147483648)) = some (-2147483648) ∧ i32De (.num (-2147483649)) = none ∧
    i32De (.str "18") = none ∧ i32De .null = none ∧
    pTypeDe (.str ">=") = some .ge ∧ pTypeDe (.str "<=") = some .le ∧
    pTypeDe (.str ">") = some .gt ∧ pTypeDe (.str "<") = some .lt ∧
    pTypeDe (.str "GE") = none ∧ pTypeDe (.str "==") = none ∧
    pTypeDe (.obj [(">=", .null)]) = some .ge ∧ pTypeDe (.obj [(">=", .num 1)]) = none ∧
    pTypeDe (.obj []) = none ∧ pTypeDe .null = none := by
  decide +kernel

/-- two attributes (one a `names` group with restrictions and an empty local interval), one
predicate with a local interval, a request-wide interval with `from` only, version 2 -/
def sampleReq : ReqDoc :=
  { nonce := "123456789012345678901234", name := "proof_req", version := "0.1",
    attrs := [("attr1_referent", ⟨some "name", none, none, none⟩),
              ("attr2_referent", ⟨none, some ["sex", "height"],
                some (.and [.eq "schema_id" "s:1", .isIn "cred_def_id" ["c1", "c2"],
                            .not (.exist ["attr::age::marker"])]),
                some ⟨none, none⟩⟩)],
    preds := [("pred1_referent", ⟨"age", .ge, 18, some (.or [.eq "issuer_id" "did:x"]),
                some ⟨some 5, some 10⟩⟩)],
    nonRevoked := some ⟨some 1700000000, none⟩, v2 := true }

theorem sampleReq_wf : WfReq sampleReq := by decide +kernel
example : WfReq sampleReq := sampleReq_wf
example : reqDe (reqSer sampleReq) = some sampleReq := C15_req_de_ser _ sampleReq_wf
example : reqDe (reqSer sampleReq) = some sampleReq := C15_req_de_ser _ sampleReq_wf
example : (reqSer sampleReq).WF = true := reqSer_wf _ (by decide +kernel) (by decide +kernel)

def minimalDoc : List (String × Json) :=
  [("name", .str "n"), ("nonce", .str "1"), ("version", .str "v")]

def minimalReq : ReqDoc :=
  { nonce := "1", name := "n", version := "v", attrs := [], preds := [], nonRevoked := none,
    v2 := false }

example : reqDe (.obj minimalDoc) = some minimalReq := by rfl
example : reqDe (.obj (("non_revoked", .null) :: minimalDoc)) = some minimalReq := by rfl
example : reqDe (.obj (("non_revoked", .obj []) :: minimalDoc)) =
    some { minimalReq with nonRevoked := some ⟨none, none⟩ } := by rfl
example : reqDe (.obj (("non_revoked", .obj [("from", .null), ("to", .num 5)]) :: minimalDoc)) =
    some { minimalReq with nonRevoked := some ⟨none, some 5⟩ } := by rfl
example : reqDe (.obj (minimalDoc ++ [("ver", .str "2.0")])) = some { minimalReq with v2 := true } := by rfl
example : reqDe (.obj (minimalDoc ++ [("ver", .str "1.0")])) = some minimalReq := by rfl
example : reqDe (.obj (minimalDoc ++ [("ver", .null)])) = some minimalReq := by rfl
example : reqDe (.obj (minimalDoc ++ [("ver", .str "3.0")])) = none := by decide +kernel
example : reqDe (.obj (minimalDoc ++ [("ver", .num 2)])) = none := by decide +kernel
example : reqDe (.obj [("name", .str "n"), ("nonce", .num 12), ("version", .str "v")]) =
    some { minimalReq with nonce := "12" } := by rfl
example : reqDe (.obj [("name", .str "n"), ("nonce", .arr [.num 1, .num 2]), ("version", .str "v")]) =
    some { minimalReq with nonce := "258" } := by rfl
example : reqDe (.obj [("name", .str "n"), ("nonce", .str "12a"), ("version", .str "v")]) = none := by decide +kernel
example : reqDe (.obj [("name", .str "n"), ("nonce", .num (-12)), ("version", .str "v")]) = none := by decide +kernel
example : reqDe (.obj [("name", .str "n"), ("nonce", .num 18446744073709551616), ("version", .str "v")]) =
    none := by decide +kernel
-- the array forms of the inner structs (the code as it is)
example : attrDe (.arr [.str "x", .null, .null, .null]) = some ⟨some "x", none, none, none⟩ := by rfl
example : attrDe (.arr [.str "x", .null, .null]) = none := by decide +kernel
example : predDe (.arr [.str "age", .str "<", .num 5, .null, .null]) = some ⟨"age", .lt, 5, none, none⟩ := by rfl
example : attrDe (.obj [("name", .str "x"), ("restrictions", .obj [("$not", .obj [])])]) =
    some ⟨some "x", none, some (.not (.and [])), none⟩ := by rfl
example : attrDe (.obj [("name", .str "x"),
      ("restrictions", .arr [.obj [("cred_def_id", .str "x"), ("schema_id", .null)]])]) =
    some ⟨some "x", none, some (.or [.eq "cred_def_id" "x"]), none⟩ := by rfl
example : attrDe (.obj [("name", .str "x"), ("restrictions", .num 5)]) = none := by decide +kernel
-- the hypotheses of `C15_req_de_ser` are needed: `Or([])` comes back as `And([])`, an empty nonce,
-- an out-of-range `p_value` or bound do not come back at all
example : reqDe (reqSer { minimalReq with attrs := [("a", ⟨some "x", none, some (.or []), none⟩)] }) =
    some { minimalReq with attrs := [("a", ⟨some "x", none, some (.and []), none⟩)] } := by rfl
example : reqDe (reqSer { minimalReq with nonce := "" }) = none := by decide +kernel
example : reqDe (reqSer { minimalReq with preds := [("p", ⟨"age", .ge, 2147483648, none, none⟩)] }) = none := by decide +kernel
example : reqDe (reqSer { minimalReq with nonRevoked := some ⟨some 18446744073709551616, none⟩ }) = none := by decide +kernel
-- … and so is `j.WF` for the distinctness clause of `C15_req_ser_de`: an association list with a
-- repeated referent (not a `serde_json::Value`) reads as a list with a repeated referent
example : ¬ WfReq { minimalReq with attrs := [("a", ⟨some "x", none, none, none⟩), ("a", ⟨some "y", none, none, none⟩)] } := by
  decide +kernel

end AnonModel.WireReq
