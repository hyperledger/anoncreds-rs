import AnonModel.Lemmas.VerifierLegacy
/-!
# C05 (legacy format) — a verified presentation is bound to the request nonce, one link secret,
the supplied definitions, and the proof it carries

Soundness direction for the model `Verifier.verifyLegacy` of `services/verifier.rs:
verify_presentation` on top of the ideal CL functionality (`Model/IdealCL.lean`). All theorems have
the form "`verifyLegacy ctx r p = .ok true` ⇒ …" or the contrapositive "… ⇒ not accepted".
`SubSound` (defined in `Lemmas/VerifierLegacy.lean`) is the per-sub-proof statement: intact, signed
by the key of the supplied credential definition, over the supplied schema, revealed values and
predicates true of the signed values.

No hypothesis on key uniqueness is needed in this file.
-/
namespace AnonModel.Verifier
open AnonModel.IdealCL

/-- **C05**: an accepted presentation carries an unaltered aggregated proof built for the nonce of
*this* request, over exactly the sub-proofs it carries and in this order; there is one sub-proof per
identifier; every sub-proof is sound for the schema and credential definition the verifier supplied
for the identifier at the same index; and all sub-proofs were made with one link secret (in one
session). -/
theorem C05_legacy {ctx : Ctx} {r : Request} {p : Presentation}
    (h : verifyLegacy ctx r p = .ok true) :
    p.agg.nonce = r.nonce ∧ p.agg.intact = true ∧ p.subs.length = p.identifiers.length ∧
    (∀ (i : Nat) s, p.subs[i]? = some s → SubSound ctx p i s) ∧
    (∀ s t, s ∈ p.subs → t ∈ p.subs → s.ms = t.ms) ∧
    p.agg.bound.map Prod.fst = p.subs.map (·.uid) := by
  obtain ⟨hnonce, hint, hms, hbound⟩ := verdict_ok_true (verifyLegacy_eq ctx r p ▸ h)
  exact ⟨hnonce, hint, (ok_subs h).1, subSound_of_ok h, fun s t hs ht => hms s hs t ht, hbound⟩

/-- a presentation made for another nonce is not accepted -/
theorem C05_other_nonce_rejected {ctx : Ctx} {r : Request} {p : Presentation}
    (hne : p.agg.nonce ≠ r.nonce) : verifyLegacy ctx r p ≠ .ok true :=
  fun h => hne (C05_legacy h).1

/-- sub-proofs made with two different link secrets (or in two sessions) are not accepted together -/
theorem C05_two_link_secrets_rejected {ctx : Ctx} {r : Request} {p : Presentation}
    {s t : SymSub} (hs : s ∈ p.subs) (ht : t ∈ p.subs) (hne : s.ms ≠ t.ms) :
    verifyLegacy ctx r p ≠ .ok true :=
  fun h => hne ((C05_legacy h).2.2.2.2.1 s t hs ht)

/-- a presentation with an altered sub-proof is not accepted -/
theorem C05_altered_subproof_rejected {ctx : Ctx} {r : Request} {p : Presentation}
    {s : SymSub} (hs : s ∈ p.subs) (halt : s.intact = false) :
    verifyLegacy ctx r p ≠ .ok true := by
  intro h
  obtain ⟨i, hi, rfl⟩ := List.mem_iff_getElem.mp hs
  exact Bool.false_ne_true
    (halt.symm.trans ((C05_legacy h).2.2.2.1 i _ (List.getElem?_eq_getElem hi)).intact)

/-- a presentation with an altered aggregated proof is not accepted -/
theorem C05_altered_aggregate_rejected {ctx : Ctx} {r : Request} {p : Presentation}
    (halt : p.agg.intact = false) : verifyLegacy ctx r p ≠ .ok true :=
  fun h => Bool.false_ne_true (halt.symm.trans (C05_legacy h).2.1)

/-- a sub-proof made from a credential signed by a key other than the one in the credential
definition the verifier supplied for its identifier is not accepted -/
theorem C05_wrong_definition_rejected {ctx : Ctx} {r : Request} {p : Presentation}
    {i : Nat} {s : SymSub} {id : Identifier} {cd : CredDefInfo}
    (hs : p.subs[i]? = some s) (hid : p.identifiers[i]? = some id)
    (hcd : ctx.credDefs.lookup id.credDefId = some cd) (hne : s.cred.key ≠ cd.key) :
    verifyLegacy ctx r p ≠ .ok true :=
  fun h => hne (((C05_legacy h).2.2.2.1 i s hs).key hid hcd)

/-- a presentation whose sub-proofs are not exactly those (in that order) the aggregated proof was
built over — one added, dropped, replaced or moved — is not accepted -/
theorem C05_spliced_rejected {ctx : Ctx} {r : Request} {p : Presentation}
    (hne : p.subs.map (·.uid) ≠ p.agg.bound.map Prod.fst) : verifyLegacy ctx r p ≠ .ok true :=
  fun h => hne (C05_legacy h).2.2.2.2.2.symm

/-- a presentation with fewer or more sub-proofs than identifiers is not accepted -/
theorem C05_length_mismatch_rejected {ctx : Ctx} {r : Request} {p : Presentation}
    (hne : p.subs.length ≠ p.identifiers.length) : verifyLegacy ctx r p ≠ .ok true :=
  fun h => hne (C05_legacy h).2.2.1

section Examples
open Honest

example : verifyLegacy ctx req pres = .ok true := Honest.accepted
example : verifyLegacy ctx { req with nonce := "M" } pres = .ok false := Honest.other_nonce
example : verifyLegacy ctx req { pres with agg := { pres.agg with intact := false } } = .ok false := by
  decide +kernel
example : verifyLegacy ctx req { pres with subs := [{ sub with intact := false }] } = .ok false := by
  decide +kernel
example : verifyLegacy ctx req { pres with subs := [{ sub with cred := { sub.cred with key := 2 } }] }
    = .ok false := by decide +kernel
example : verifyLegacy ctx req { pres with subs := [{ sub with uid := 2 }] } = .ok false := by decide +kernel
-- two sub-proofs with different link-secret responses: `Err` from the CL verifier
example : verifyLegacy ctx req
    { pres with identifiers := pres.identifiers ++ pres.identifiers,
                subs := [sub, { sub with ms := (2, 1), uid := 2 }],
                agg := { pres.agg with bound := [(1, false), (2, false)] } } = .err := by decide +kernel
example : verifyLegacy ctx req
    { pres with identifiers := pres.identifiers ++ pres.identifiers,
                subs := [sub, { sub with uid := 2 }],
                agg := { pres.agg with bound := [(1, false), (2, false)] } } = .ok true := by decide +kernel
end Examples

end AnonModel.Verifier
