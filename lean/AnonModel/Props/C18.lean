import AnonModel.Lemmas.Store
/-!
# C18 — the FFI handle store is linearizable and type-safe under concurrency

Property theorems only (invariants and their preservation are in `Lemmas/Store.lean`).
Every theorem is about `run sched (initCfg progs)` for **all** schedules `sched`
(interleavings of atomic micro-steps), all thread counts and all programs `progs`
(`progs[t]` is the operation sequence of thread `t`); they rest on one induction over the
schedule (`core_run`). Step numbers: `r.inv` first micro-step, `r.lin` the locked step (for `create` the
insert), `r.res` last micro-step of the completed operation `r`.

**Partial by nature.** The theorems are about the locking discipline of
`src/ffi/object.rs` (which steps are atomic and in which order a call takes them). What the
model cannot exhibit is not proved: `Arc` reference counting (a snapshot is a plain value
here, so "the object stays valid" means "the result is computed from the snapshot"), the
mutex implementation, lock poisoning after a panic inside the lock (every `lock()` succeeds
here), weak-memory effects below `SeqCst`, overflow of the `usize` counter.
-/
namespace AnonModel.Store

/-- **invariant**: every handle in the map is bounded by the counter and non-zero, the map's
keys are distinct; every in-flight handle (allocated by `fetch_add`, not yet inserted) is
bounded by the counter, non-zero and absent from the map; in-flight handles of different
threads differ -/
theorem C18_inv (progs : List (List Op)) (sched : Sched) :
    let c := run sched (initCfg progs)
    (∀ h ∈ keys c.map, h ≤ c.counter ∧ h ≠ 0) ∧ (keys c.map).Nodup ∧
    (∀ (t : Nat) (th : Thread) (o : Obj) (h i : Nat), c.threads[t]? = some th → th.pend = .creating o h i →
      h ≤ c.counter ∧ h ≠ 0 ∧ h ∉ keys c.map) ∧
    (∀ (t1 t2 : Nat) (th1 th2 : Thread) (o1 o2 : Obj) (h i1 i2 : Nat), c.threads[t1]? = some th1 →
      c.threads[t2]? = some th2 → th1.pend = .creating o1 h i1 → th2.pend = .creating o2 h i2 → t1 = t2) := by
  intro c
  have a := core_run progs sched
  refine ⟨fun h hh => a.ch_le h (a.keys_created h hh), a.keys_nodup, ?_, a.distinct⟩
  intro t th o h i hth hp
  obtain ⟨h1, h2, h3⟩ := a.inflight hth hp
  exact ⟨h1, h2, fun hm => h3 (a.keys_created h hm)⟩

/-- the handles returned by all completed `create` operations of an execution are pairwise
distinct — whatever was freed in between — and non-zero; and a handle still in flight has
not been returned to anybody -/
theorem C18_handles_unique_never_reused (progs : List (List Op)) (sched : Sched) :
    let c := run sched (initCfg progs)
    (createdHandles c.hist).Nodup ∧ (∀ h ∈ createdHandles c.hist, h ≠ 0) ∧
    (∀ (t : Nat) (th : Thread) (o : Obj) (h i : Nat), c.threads[t]? = some th → th.pend = .creating o h i →
      h ∉ createdHandles c.hist) := by
  intro c
  have a := core_run progs sched
  exact ⟨a.ch_nodup, fun h hh => (a.ch_le h hh).2, fun t th o h i hth hp => (a.inflight hth hp).2.2⟩

/-- the same, stated on pairs of records: two different completed creates returned different handles -/
theorem C18_handles_unique_pairwise (progs : List (List Op)) (sched : Sched) :
    let c := run sched (initCfg progs)
    ∀ a ∈ c.hist, ∀ b ∈ c.hist, ∀ h, a.result = .handle h → b.result = .handle h → a = b := by
  intro c a ha b hb h hra hrb
  exact List.eq_of_nodup_filterMap (core_run progs sched).ch_nodup ha hb (by rw [hra]) (by rw [hrb])

/-- **linearizability**: `linLog` (the operations in the order of their locked steps, most
recent first)
1. is a legal sequential history of the abstract spec — a partial map with
   insert / get / remove where `create` returns a fresh non-zero handle — *including the
   recorded results*, and replaying it yields exactly the concrete map;
2. is strictly ordered by linearization step;
3. contains every completed operation with its recorded result, at a step inside the
   operation's `[inv, res]` interval;
4. hence respects real time: an operation that completed before another was invoked is
   linearized before it;
5. contains nothing else than completed operations and the in-flight `get` of a thread that
   has taken its snapshot but not yet used it. -/
theorem C18_linearizable (progs : List (List Op)) (sched : Sched) :
    let c := run sched (initCfg progs)
    (∃ s, specOf c.linLog = some s ∧ ∀ h, s.map h = mapGet c.map h) ∧
    c.linLog.Pairwise (fun newer older => older.lin < newer.lin) ∧
    (∀ r ∈ c.hist, r.toLin ∈ c.linLog ∧ r.inv ≤ r.lin ∧ r.lin ≤ r.res) ∧
    (∀ a ∈ c.hist, ∀ b ∈ c.hist, a.res < b.inv → a.lin < b.lin) ∧
    (∀ l ∈ c.linLog, (∃ r ∈ c.hist, r.toLin = l) ∨
      ∃ th k h s, c.threads[l.thread]? = some th ∧ th.pend = .snap k h s l.lin ∧
        l = ⟨l.thread, .get k h, l.lin, useSnap k s⟩) := by
  intro c
  have a := core_run progs sched
  obtain ⟨s, h1, h2, _⟩ := a.replay
  refine ⟨⟨s, h1, h2⟩, a.timing.sorted, ?_, ?_, a.accounted⟩
  · intro r hr
    have := a.timing.hist_times r hr
    exact ⟨a.timing.hist_in_log r hr, this.1, this.2.1⟩
  · intro x hx y hy hlt
    have h1 := a.timing.hist_times x hx
    have h2 := a.timing.hist_times y hy
    omega

/-- **a handle resolves to its object until freed, to an error afterwards.** Let `rc` be the
completed create that stored `o` under `h`, and `r` a completed `load`/`json`/`typeName`/`useAs`
of `h`.
(a) If `r`'s locked step lies after the insert and no remove of `h` lies between them, `r`
    delivered exactly `o` (for `useAs T`: `o` or the type error, see `C18_wrong_type_errors`).
(b) If some remove of `h` lies between the insert and `r`'s locked step, `r` answered
    `errInvalid` — for ever after, since handles are never re-inserted.
(c) If `r`'s locked step lies before the insert, `r` answered `errInvalid`. -/
theorem C18_resolves_until_freed (progs : List (List Op)) (sched : Sched) :
    let c := run sched (initCfg progs)
    ∀ rc ∈ c.hist, ∀ o h, rc.op = .create o → rc.result = .handle h →
    ∀ r ∈ c.hist, ∀ k, r.op = .get k h →
      (rc.lin < r.lin → (∀ f ∈ c.hist, f.op = .free h → ¬ (rc.lin < f.lin ∧ f.lin < r.lin)) →
        r.result = useSnap k (some o) ∧ ((∀ T, k ≠ .useAs T) → r.result = .ok o)) ∧
      ((∃ f ∈ c.hist, f.op = .free h ∧ rc.lin < f.lin ∧ f.lin < r.lin) → r.result = .errInvalid) ∧
      (r.lin < rc.lin → r.result = .errInvalid) := by
  intro c rc hrc o h hop hres r hr k hk
  have a := core_run progs sched
  obtain ⟨q, w⟩ := a.win.win rc hrc o h hop hres
  have wg := w.gets r hr k hk
  refine ⟨?_, ?_, ?_⟩
  · intro hlt hno
    have : r.result = useSnap k (some o) := by
      rcases wg with ⟨g1, _⟩ | ⟨_, g2 | ⟨Q, hQ, g2⟩⟩
      · exact g1
      · omega
      · obtain ⟨q1, f, hf1, hf2, hf3⟩ := w.qfree Q hQ
        exact absurd ⟨by omega, by omega⟩ (hno f hf1 hf2)
    exact ⟨this, fun hT => by rw [this, useSnap_ok k o hT]⟩
  · rintro ⟨f, hf, hfo, hf1, hf2⟩
    rcases w.frees f hf hfo with w1 | ⟨Q, hQ, w1⟩
    · omega
    · rcases wg with ⟨_, _, g3⟩ | ⟨g1, _⟩
      · have := g3 Q hQ; omega
      · exact g1
  · intro hlt
    rcases wg with ⟨_, g2, _⟩ | ⟨g1, _⟩
    · omega
    · exact g1

/-- a handle that no completed create of the execution returned (never allocated, still in
flight, or 0) resolves to `errInvalid` in every completed operation -/
theorem C18_unknown_handle_invalid (progs : List (List Op)) (sched : Sched) :
    let c := run sched (initCfg progs)
    ∀ h, h ∉ createdHandles c.hist → ∀ r ∈ c.hist, ∀ k, r.op = .get k h → r.result = .errInvalid := by
  intro c h hh r hr k hk
  have a := core_run progs sched
  exact a.win.never h hh r hr k hk

/-- **wrong type ⇒ error, never a value**: `useAs T h` never returns an object whose type is not
`T`; and when it resolved (window of `C18_resolves_until_freed` (a)) an object of another type
the answer is exactly `errType` -/
theorem C18_wrong_type_errors (progs : List (List Op)) (sched : Sched) :
    let c := run sched (initCfg progs)
    (∀ r ∈ c.hist, ∀ T h o', r.op = .useAs T h → r.result = .ok o' → o'.ty = T) ∧
    (∀ rc ∈ c.hist, ∀ o h, rc.op = .create o → rc.result = .handle h →
      ∀ r ∈ c.hist, ∀ T, r.op = .useAs T h → o.ty ≠ T → rc.lin < r.lin →
      (∀ f ∈ c.hist, f.op = .free h → ¬ (rc.lin < f.lin ∧ f.lin < r.lin)) → r.result = .errType) := by
  intro c
  have a := core_run progs sched
  refine ⟨?_, ?_⟩
  · intro r hr T h o' hop hres
    obtain ⟨_, s, hs⟩ := a.shape.get r hr (.useAs T) h hop
    rw [hres] at hs
    cases s with
    | none => simp [useSnap] at hs
    | some o =>
      simp only [useSnap] at hs
      split at hs
      · rename_i hT; cases hs; exact hT
      · cases hs
  · intro rc hrc o h hop hres r hr T hk hne hlt hno
    have := ((C18_resolves_until_freed progs sched) rc hrc o h hop hres r hr (.useAs T) hk).1 hlt hno
    rw [this.1]; simp [useSnap, hne]

/-- **an object in use survives a concurrent free.** The response of an operation that has taken
its snapshot is a function of the snapshot alone: the completing micro-step neither reads nor
writes the map … -/
theorem C18_use_depends_only_on_snapshot (c : Config) (t : Nat) (th : Thread) (k : GetKind) (h : Nat)
    (s : Option Obj) (i : Nat) (hth : c.threads[t]? = some th) (hp : th.pend = .snap k h s i) :
    (step t c).hist = ⟨t, .get k h, i, i, c.now, useSnap k s⟩ :: c.hist ∧ (step t c).map = c.map := by
  simp [step, hth, micro, hp]

/-- … hence, for all schedules: an operation whose locked step came after the insert of `h` and
before any remove still delivers the object, even if a remove of `h` by another thread falls
between its locked step and its response -/
theorem C18_snapshot_survives_free (progs : List (List Op)) (sched : Sched) :
    let c := run sched (initCfg progs)
    ∀ rc ∈ c.hist, ∀ o h, rc.op = .create o → rc.result = .handle h →
    ∀ r ∈ c.hist, ∀ k, r.op = .get k h → rc.lin < r.lin →
    (∀ f ∈ c.hist, f.op = .free h → ¬ (rc.lin < f.lin ∧ f.lin < r.lin)) →
    ∀ f ∈ c.hist, f.op = .free h → r.lin < f.lin → f.lin < r.res →
    r.result = useSnap k (some o) := by
  intro c rc hrc o h hop hres r hr k hk hlt hno _ _ _ _ _
  exact (((C18_resolves_until_freed progs sched) rc hrc o h hop hres r hr k hk).1 hlt hno).1

/-- **the history checker accepts every model history**: abstracting the recorded history of
any execution to events (step `s` ↦ invocation ticket `2s`, response ticket `2s+1`) gives a
history `checkHistory` accepts -/
theorem C18_checker_sound (progs : List (List Op)) (sched : Sched) :
    checkHistory (toEvents (run sched (initCfg progs)).hist) = true :=
  checkHistory_sound (core_run progs sched)

/-- … and the abstraction drops no record (so the previous theorem is not about a thinned-out
history) -/
theorem C18_abstraction_total (progs : List (List Op)) (sched : Sched) :
    (toEvents (run sched (initCfg progs)).hist).length = (run sched (initCfg progs)).hist.length :=
  List.filterMap_length_eq_length.mpr fun _ hr => toEvent_isSome (core_run progs sched) hr

/-- thread 0: create, json; thread 1: load 1, free 1, load 1 -/
private def demoProgs : List (List Op) :=
  [[.create ⟨7, 100⟩, .json 1], [.load 1, .free 1, .load 1]]

/-- t0 allocates and inserts; t1 takes its snapshot of handle 1; t0 takes a snapshot; **t1 frees 1**;
then t0 uses its snapshot and still gets the object (`C18_snapshot_survives_free` has a witness);
t1's later load fails -/
example :
    (run [0, 0, 1, 1, 0, 1, 0, 1, 1] (initCfg demoProgs)).hist.map (fun r => (r.thread, r.op, r.lin, r.res, r.result)) =
      [(1, .load 1, 7, 8, .errInvalid), (0, .json 1, 4, 6, .ok ⟨7, 100⟩), (1, .free 1, 5, 5, .unit),
       (1, .load 1, 2, 3, .ok ⟨7, 100⟩), (0, .create ⟨7, 100⟩, 1, 1, .handle 1)] := by decide +kernel

/-- a load that overtakes the insert sees an invalid handle (window (c)) -/
example :
    (run [0, 1, 1, 0] (initCfg demoProgs)).hist.map (fun r => (r.thread, r.op, r.result)) =
      [(0, .create ⟨7, 100⟩, .handle 1), (1, .load 1, .errInvalid)] := by decide +kernel

example :
    (run [0, 0, 1, 1] (initCfg [[.create ⟨7, 100⟩], [.useAs 8 1]])).hist.map (fun r => r.result) =
      [.errType, .handle 1] := by decide +kernel

private def ev (th : Nat) (op : EOp) (h : Nat) (w : Option Nat) (i r : Nat) (res : EResult)
    (ty obj : Option Nat) : Event := ⟨th, op, h, w, i, r, res, ty, obj⟩

/-- accepted: create, json, free, json-invalid in sequence -/
example : checkHistory [ev 0 .create 1 none 0 1 .ok (some 7) (some 100), ev 0 .json 1 none 2 3 .ok (some 7) (some 100),
    ev 0 .free 1 none 4 5 .ok none none, ev 0 .json 1 none 6 7 .invalid none none] = true := by decide +kernel
/-- accepted: a load overlapping a free may answer either way -/
example : checkHistory [ev 0 .create 1 none 0 1 .ok (some 7) (some 100), ev 0 .free 1 none 2 5 .ok none none,
    ev 1 .use 1 none 4 6 .ok none none] = true := by decide +kernel
example : checkHistory [ev 0 .create 1 none 0 1 .ok (some 7) (some 100), ev 0 .free 1 none 2 5 .ok none none,
    ev 1 .use 1 none 4 6 .invalid none none] = true := by decide +kernel
/-- rejected: an ok-load invoked after a free of that handle had responded -/
example : checkHistory [ev 0 .create 1 none 0 1 .ok (some 7) (some 100), ev 0 .free 1 none 2 3 .ok none none,
    ev 1 .use 1 none 4 5 .ok none none] = false := by decide +kernel
/-- rejected: a handle returned twice -/
example : checkHistory [ev 0 .create 1 none 0 1 .ok (some 7) (some 100),
    ev 1 .create 1 none 2 3 .ok (some 7) (some 101)] = false := by decide +kernel
/-- rejected: a json that observes another object's id -/
example : checkHistory [ev 0 .create 1 none 0 1 .ok (some 7) (some 100), ev 1 .create 2 none 2 3 .ok (some 7) (some 101),
    ev 0 .json 1 none 4 5 .ok (some 7) (some 101)] = false := by decide +kernel
/-- rejected: `invalid` for a live handle -/
example : checkHistory [ev 0 .create 1 none 0 1 .ok (some 7) (some 100),
    ev 0 .json 1 none 2 3 .invalid none none] = false := by decide +kernel
/-- rejected: absent-then-present during one free -/
example : checkHistory [ev 0 .create 1 none 0 1 .ok (some 7) (some 100), ev 1 .free 1 none 2 9 .ok none none,
    ev 2 .json 1 none 4 5 .invalid none none, ev 2 .json 1 none 6 7 .ok (some 7) (some 100)] = false := by
  decide +kernel
/-- rejected: a cast to the wrong type that succeeds; a type error for the right type -/
example : checkHistory [ev 0 .create 1 none 0 1 .ok (some 7) (some 100),
    ev 0 .use 1 (some 8) 2 3 .ok none none] = false := by decide +kernel
example : checkHistory [ev 0 .create 1 none 0 1 .ok (some 7) (some 100),
    ev 0 .use 1 (some 7) 2 3 .typeError none none] = false := by decide +kernel
/-- rejected: the later create got the smaller handle -/
example : checkHistory [ev 0 .create 2 none 0 1 .ok (some 7) (some 100),
    ev 1 .create 1 none 2 3 .ok (some 7) (some 101)] = false := by decide +kernel

end AnonModel.Store
