import AnonModel.Lemmas.ProverChecks
import AnonModel.Lemmas.VerifierW3C
import AnonModel.Lemmas.Encode
/-!
# C04 — honest issue-hold-present-verify flows always verify

`C04_legacy`: a presentation that `createPresentation` builds from a selection meeting `meetsDemands`
(see `Props/C04Defs.lean`) is accepted by `verifyLegacy`; `C04_w3c`: likewise for
`createPresentationW3C`, `meetsDemandsW3C`, `verifyW3C`. Proved check by check: one `C04_check_…`
lemma per check of the verifier, the legacy ones numbered in the order of `verifyLegacy` (check 8,
`listsOk`, is the conjunct `listsComplete` of the hypothesis and has no lemma). Helper lemmas:
`Lemmas/Prover.lean`, `Lemmas/ProverMaps.lean`, `Lemmas/ProverW3C.lean`, `Lemmas/ProverChecks.lean`.
-/
namespace AnonModel.Prover
open AnonModel.Verifier AnonModel.IdealCL AnonModel.Names
open AnonModel.Query (Query)

variable {ctx : Ctx} {pc : PCtx} {r : Request} {sel : List Selected} {sa : List (String × String)}
  {holder session uid0 : Nat} {p : Presentation}

/-- check 1: every sub-proof index in the presentation has an identifier -/
theorem C04_check_indicesOk (h : createPresentation pc r sel sa holder session uid0 = some p) :
    indicesOk p = true := by
  have ch := createPresentation_char h
  unfold indicesOk
  simp only [Bool.and_eq_true, List.all_eq_true, decide_eq_true_eq, ch.identifiers_length]
  refine ⟨⟨⟨?_, ?_⟩, ?_⟩, ?_⟩
  · rintro ⟨k, info⟩ hk
    obtain ⟨s, i, _, _, _, hs, _, _, _, _, rfl⟩ := ch.mem_revealed.mp hk
    exact List.getElem?_lt hs
  · rintro ⟨k, g⟩ hk
    obtain ⟨s, i, _, _, _, hs, _, _, _, _, _, rfl⟩ := ch.mem_groups.mp hk
    exact List.getElem?_lt hs
  · rintro ⟨k, j⟩ hk
    obtain ⟨s, hs, _⟩ := ch.mem_unrevealed.mp hk
    exact List.getElem?_lt hs
  · rintro ⟨k, j⟩ hk
    obtain ⟨s, hs, _⟩ := ch.mem_predicates.mp hk
    exact List.getElem?_lt hs

/-- check 2: no referent is in two of `revealed_attrs`, `revealed_attr_groups`, `unrevealed_attrs` -/
theorem C04_check_uniqueReferents (h : createPresentation pc r sel sa holder session uid0 = some p) :
    uniqueReferents p = true :=
  (createPresentation_char h).uniqueReferents

/-- check 3: the presentation's referents are exactly the requested ones -/
theorem C04_check_compareAttrs (hm : meetsDemands ctx pc r sel sa = true)
    (h : createPresentation pc r sel sa holder session uid0 = some p) : compareAttrs r p = true := by
  have ch := createPresentation_char h
  have m := meets_of hm
  rw [compareAttrs_iff]
  simp only [keys, List.mem_append, List.mem_keys]
  refine ⟨fun k => ⟨fun ⟨info, hkv⟩ => ?_, ?_⟩, fun k => ⟨fun ⟨q, hkv⟩ => ?_, fun ⟨j, hkv⟩ => ?_⟩⟩
  · have hserved := List.all_eq_true.mp m.attrsServed _ hkv
    simp only [Bool.or_eq_true, List.any_eq_true, List.contains_iff_mem, keys, List.mem_keys] at hserved
    rcases hserved with ⟨s, hs, b, hkb⟩ | hsa
    · obtain ⟨i, hi⟩ := List.mem_iff_getElem?.mp hs
      have hnp : info.name.isSome ∨ info.names.isSome := by
        simpa using List.all_eq_true.mp m.names _ hkv
      have := attrIdentifierIdx_mem (ch.attrIdentifierIdx_of hi hkb (lookup_of_noDup m.attrsNodup hkv) hnp)
      simp only [keys, List.mem_append, List.mem_keys] at this
      exact Or.inl this
    · rw [ch.selfAttested]; exact Or.inr hsa
  · rintro (((⟨_, hkv⟩ | ⟨_, hkv⟩) | ⟨_, hkv⟩) | ⟨_, hkv⟩)
    · obtain ⟨_, _, ai, _, _, _, _, hl, _⟩ := ch.mem_revealed.mp hkv
      exact ⟨ai, List.mem_of_lookup hl⟩
    · obtain ⟨_, _, ai, _, _, _, _, hl, _⟩ := ch.mem_groups.mp hkv
      exact ⟨ai, List.mem_of_lookup hl⟩
    · obtain ⟨s, hs, hf⟩ := ch.mem_unrevealed.mp hkv
      obtain ⟨info, _, hl, _⟩ := m.unrevealed_held hs hf
      exact ⟨info, List.mem_of_lookup hl⟩
    · rw [ch.selfAttested] at hkv
      simpa [keys] using List.all_eq_true.mp m.saRequested _ hkv
  · obtain ⟨s, hs, hks⟩ := List.any_eq_true.mp (List.all_eq_true.mp m.predsServed _ hkv)
    obtain ⟨i, hi⟩ := List.mem_iff_getElem?.mp hs
    exact ⟨i, ch.mem_predicates.mpr ⟨s, hi, List.contains_iff_mem.mp hks⟩⟩
  · obtain ⟨s, hs, hks⟩ := ch.mem_predicates.mp hkv
    obtain ⟨sub, _, sb⟩ := ch.sub_of hs
    obtain ⟨q, hl⟩ := sb.predsRequested hks
    exact ⟨q, List.mem_of_lookup hl⟩

/-- check 4: revealed raw/encoded values agree with the sub-proofs -/
theorem C04_check_revealedValuesOk (hm : meetsDemands ctx pc r sel sa = true)
    (h : createPresentation pc r sel sa holder session uid0 = some p) : revealedValuesOk r p = true := by
  have ch := createPresentation_char h
  have m := meets_of hm
  refine revealedValuesOk_iff.mpr ⟨?_, ?_⟩
  · rintro ⟨k, info⟩ hk
    obtain ⟨s, i, ai, name, re, hs, ht, hl, hn, hc, rfl⟩ := ch.mem_revealed.mp hk
    obtain ⟨sub, hsub, sb⟩ := ch.sub_of hs
    exact ⟨ai, name, sub, hl, hn, hsub, sb.revealed_ok (.single ht hl hn) rfl (m.signed hs hc)⟩
  · rintro ⟨k, g⟩ hk
    obtain ⟨s, i, ai, names, vals, hs, ht, hl, hn, hns, hvals, rfl⟩ := ch.mem_groups.mp hk
    obtain ⟨sub, hsub, sb⟩ := ch.sub_of hs
    refine ⟨ai, names, sub, hl, hns, hsub, List.length_of_mapM hvals, fun n hn' => ?_⟩
    have hmem := List.mem_eraseDups.mpr hn'
    obtain ⟨nv, _, hnv⟩ := List.exists_mem_of_mapM hvals hmem
    obtain ⟨re, hc, _⟩ := Option.map_eq_some_iff.mp hnv
    exact ⟨re, by rw [List.mapM_pair_lookup hvals hmem, hc],
      sb.revealed_ok (.member ht hl hns hn') rfl (m.signed hs hc)⟩

/-- check 5: every unrevealed referent is requested and its credential's schema has the names -/
theorem C04_check_unrevealedOk (hm : meetsDemands ctx pc r sel sa = true)
    (h : createPresentation pc r sel sa holder session uid0 = some p) : unrevealedOk ctx r p = true := by
  have ch := createPresentation_char h
  refine unrevealedOk_iff.mpr ?_
  rintro ⟨k, j⟩ hk
  obtain ⟨s, hs, hf⟩ := ch.mem_unrevealed.mp hk
  obtain ⟨info, sc, hl, hsc, hall⟩ := (meets_of hm).unrevealed_held hs hf
  exact ⟨info, identOf s, sc, hl, ch.identifier_of hs, hsc, hall⟩

/-- check 6: every predicate referent is requested and proven by the sub-proof it points to -/
theorem C04_check_predicatesOk (h : createPresentation pc r sel sa holder session uid0 = some p) :
    predicatesOk r p = true := by
  have ch := createPresentation_char h
  refine predicatesOk_iff.mpr ?_
  rintro ⟨k, j⟩ hk
  obtain ⟨s, hs, hks⟩ := ch.mem_predicates.mp hk
  obtain ⟨sub, hsub, sb⟩ := ch.sub_of hs
  obtain ⟨q, hl⟩ := sb.predsRequested hks
  exact ⟨q, sub, hl, hsub, sb.proves hks hl rfl⟩

/-- check 7: restrictions -/
theorem C04_check_restrictions (hm : meetsDemands ctx pc r sel sa = true)
    (h : createPresentation pc r sel sa holder session uid0 = some p) :
    restrictionsOutcome ctx r p = .ok true := by
  have ch := createPresentation_char h
  have m := meets_of hm
  rw [restrictionsOutcome_eq, (restrictionsOk_iff ctx r p).mpr ⟨by simpa [tagsNotMixed] using m.tags,
    fun kv hkv => ?_, fun kv hkv => ?_⟩]
  · rfl
  · have := List.all_eq_true.mp m.attrRestr kv hkv
    unfold attrClause
    rw [ch.selfAttested]
    cases hsa : Query.isSelfAttested kv.2.restrictions ((keys sa).contains kv.1) with
    | true => rfl
    | false =>
      simp only [hsa, Bool.false_or] at this
      simp only [Bool.false_eq_true, if_false]
      cases hq : kv.2.restrictions with
      | none => rfl
      | some q =>
        simp only [hq] at this ⊢
        exact attrRestrictionOk_of ch (lookup_of_noDup m.attrsNodup hkv) this
  · have := List.all_eq_true.mp m.predRestr kv hkv
    unfold predClause
    cases hq : kv.2.restrictions with
    | none => rfl
    | some q =>
      simp only [hq] at this ⊢
      split at this
      · cases this
      · rename_i s i hserv
        obtain ⟨hs, hk⟩ := servingPred_some hserv
        split at this
        · cases this
        · rename_i f hf
          simp only [ch.lookup_predicate hs hk, ch.identifier_of hs, hf]
          -- the verifier picks the items with index `i` out of the presentation's maps: a filter (`flatMap_ite_filter`),
          -- and the part of each map with index `i` is what entry `s` put there (`groups_filter`, `revealed_filter`)
          rw [show predValueMap r p kv.2 i = predValueMapOf r s i kv.2 by
            unfold predValueMap predValueMapOf
            simp only []
            rw [List.flatMap_ite_filter, ch.groups_filter hs, List.flatMap_ite_filter, ch.revealed_filter hs]
            rfl]
          exact this


/-- check 9: interval checks and `add_sub_proof` succeed for every identifier; the contexts handed to
the CL verifier are those of the used entries, in order -/
theorem C04_check_subCtxs (hm : meetsDemands ctx pc r sel sa = true)
    (h : createPresentation pc r sel sa holder session uid0 = some p) :
    ∃ cs, subCtxs ctx r p = some cs ∧ cs.length = (usedOf sel).length ∧
      ∀ (i : Nat) (c : SubCtx), cs[i]? = some c → ∃ s, (usedOf sel)[i]? = some s ∧
        Verifier.subCtxOf ctx (identOf s) = some c := by
  have ch := createPresentation_char h
  obtain ⟨cs, hcs, hlen, hchar⟩ := List.mapM_exists_getElem? (xs := List.range p.identifiers.length)
    (f := fun i => match p.identifiers[i]? with
      | none => none
      | some id => subCtxFor ctx r p i id)
    (P := fun i c => ∃ s, (usedOf sel)[i]? = some s ∧ Verifier.subCtxOf ctx (identOf s) = some c)
    (fun j i hj => by
      have hlt : j < (usedOf sel).length := by simpa [ch.identifiers_length] using List.getElem?_lt hj
      rw [List.getElem?_range (by rw [ch.identifiers_length]; exact hlt)] at hj
      cases hj
      have hs : (usedOf sel)[j]? = some (usedOf sel)[j] := List.getElem?_eq_getElem hlt
      obtain ⟨c, hc, hfor⟩ := subCtxFor_of (meets_of hm) ch hs
      exact ⟨c, by rw [ch.identifier_of hs]; exact hfor, _, hs, hc⟩)
  exact ⟨cs, hcs, by rw [hlen, List.length_range, ch.identifiers_length], hchar⟩


/-- check 10: the CL verification of the sub-proofs against the verifier's contexts succeeds -/
theorem C04_check_cl (hm : meetsDemands ctx pc r sel sa = true)
    (h : createPresentation pc r sel sa holder session uid0 = some p) {cs : List SubCtx}
    (hcs : subCtxs ctx r p = some cs) : IdealCL.verify cs p.subs p.agg r.nonce true = some true := by
  have ch := createPresentation_char h
  obtain ⟨cs', hcs', hlen, hchar⟩ := C04_check_subCtxs hm h
  rw [hcs] at hcs'; cases hcs'
  rw [ch.agg]
  exact verify_built (meets_of hm).cl ch.subs_length hlen (fun _ _ => ch.sub_inv) hchar

/-- **C04 (legacy format): honest flows verify.** If the verifier's context, the prover's context, the
request, the selection and the self-attested values meet `meetsDemands` — the verifier knows the same
schemas and the credential definitions that signed the credentials, the credentials carry the values
that were signed, every requested referent is served (or self-attested and unrestricted), unrevealed
referents are served by credentials that have the attribute, restrictions are true of the serving
credentials, timestamps lie in the demanded non-revocation intervals and the revocation states passed
along are good for the registries and status lists the verifier supplies — then any presentation
`create_presentation` builds is accepted by `verify_presentation`: the verdict is `Ok(true)`. -/
theorem C04_legacy (hm : meetsDemands ctx pc r sel sa = true)
    (h : createPresentation pc r sel sa holder session uid0 = some p) :
    verifyLegacy ctx r p = .ok true := by
  obtain ⟨cs, hcs, _⟩ := C04_check_subCtxs hm h
  have hl : listsOk ctx = true := (meets_of hm).lists
  unfold verifyLegacy
  simp only [C04_check_indicesOk h, C04_check_uniqueReferents h, C04_check_compareAttrs hm h,
    C04_check_revealedValuesOk hm h, C04_check_unrevealedOk hm h, C04_check_predicatesOk h,
    C04_check_restrictions hm h, hl, hcs, C04_check_cl hm h hcs, Bool.not_true, Bool.false_eq_true,
    if_false]

section W3C
open AnonModel.VerifierW3C

variable {ctx : Ctx} {pc : PCtx} {r : Request} {sel : List SelectedW3C}
  {holder session uid0 : Nat} {p : VerifierW3C.Presentation}

/-- W3C check: every requested attribute name is held by a derived credential meeting the conditions -/
theorem C04_check_w3c_attrs (hm : meetsDemandsW3C ctx pc r sel = true)
    (h : createPresentationW3C pc r sel holder session uid0 = some p) :
    r.attrs.all (fun kv => kv.2.allNames.all (fun n =>
      requestedAttributeOk ctx r p n kv.2.restrictions kv.2.nonRevoked)) = true := by
  have ch := createPresentationW3C_char h
  have m := meetsW3C_of hm
  simp only [List.all_eq_true]
  intro kv hkv n hn
  obtain ⟨s, i, sub, subj, hi, hk, hc, sb, hb, hcond⟩ :=
    ch.served (List.all_eq_true.mp m.attrsServed kv hkv)
  simp only [List.contains_iff_mem, keys] at hk
  obtain ⟨rr, hrr, hrr1⟩ := List.mem_map.mp hk
  obtain ⟨info, hinfo, hheld⟩ := buildCredentialAttributes_held hb hrr
  rw [hrr1, lookup_of_noDup m.attrsNodup hkv] at hinfo; cases hinfo
  obtain ⟨av, hav⟩ := hheld n hn
  obtain ⟨sc, hsc, hnorm⟩ := m.hasNorm_of hi sb hav
  unfold requestedAttributeOk
  split
  · rfl
  · rw [heldBy_of_held (ch.schemas_supplied m)
      ⟨credOfW3C s sub subj, List.mem_of_getElem? hc, sc, hsc, hnorm, hcond⟩]
    rfl


/-- W3C check: every requested predicate is proven by a derived credential meeting the conditions -/
theorem C04_check_w3c_preds (hm : meetsDemandsW3C ctx pc r sel = true)
    (h : createPresentationW3C pc r sel holder session uid0 = some p) :
    r.preds.all (fun kv => requestedPredicateOk ctx r p kv.2) = true := by
  have ch := createPresentationW3C_char h
  have m := meetsW3C_of hm
  simp only [List.all_eq_true]
  intro kv hkv
  obtain ⟨s, i, sub, subj, hi, hk, hc, sb, hb, hcond⟩ :=
    ch.served (List.all_eq_true.mp m.predsServed kv hkv)
  rw [List.contains_iff_mem] at hk
  obtain ⟨q, av, b, hq, hav, hmark⟩ := buildCredentialAttributes_marks hb hk
  have hl := lookup_of_noDup m.predsNodup hkv
  rw [hl] at hq; cases hq
  refine requestedPredicateOk_iff.mpr ⟨credOfW3C s sub subj, List.mem_of_getElem? hc, av.1, ?_,
    sb.proves (s := w3cAsSelected s) hk hl (Names.lookupNorm_some hav).2, hcond⟩
  unfold getPredicate subjLookup
  show (match lookupNorm subj kv.2.name with
    | some (a, .bool _) => some a
    | _ => none) = some av.1
  rw [lookupNorm_subj hav (buildCredentialAttributes_keys hb), hmark]
  rfl

/-- W3C check: issuer and verification method of each derived credential agree with its definition -/
theorem C04_check_w3c_issuers (hm : meetsDemandsW3C ctx pc r sel = true)
    (h : createPresentationW3C pc r sel holder session uid0 = some p) : issuersOk ctx p = true := by
  have ch := createPresentationW3C_char h
  have m := meetsW3C_of hm
  unfold issuersOk
  simp only [List.all_eq_true]
  intro c hc
  obtain ⟨i, hi⟩ := List.mem_iff_getElem?.mp hc
  obtain ⟨s, sub, subj, hs, _, _, rfl⟩ := ch.cred i c hi
  have := List.all_eq_true.mp m.issuers s (List.mem_of_getElem? hs)
  simp only [credOfW3C]
  split at this
  · rename_i hcd
    simp only [hcd, this, beq_self_eq_true, Bool.and_self]
  · cases this

/-- W3C check: the subject of each derived credential is backed by its sub-proof -/
theorem C04_check_w3c_subjects (hm : meetsDemandsW3C ctx pc r sel = true)
    (h : createPresentationW3C pc r sel holder session uid0 = some p) : subjectsOk p = true := by
  have ch := createPresentationW3C_char h
  have m := meetsW3C_of hm
  refine subjectsOk_iff.mpr fun c hc kv hkv => ?_
  obtain ⟨i, hi⟩ := List.mem_iff_getElem?.mp hc
  obtain ⟨s, sub, subj, hs, hadd, hb, rfl⟩ := ch.cred i c hi
  have sb := addSubProof_char hadd
  rcases buildCredentialAttributes_justified hb kv hkv with ⟨n, hmr, hl⟩ | ⟨hbool, ref, q, v, hp, hq, hl⟩
  · obtain ⟨hmem, hcv⟩ := Names.lookupNorm_some hl
    obtain ⟨hnb, hsig⟩ := m.signed hs hmem
    refine ⟨fun _ => ?_, fun b hb => absurd hb (hnb b)⟩
    exact sb.revealed_ok (s := w3cAsSelected s) hmr hcv
      (by rw [← hcv, Encode.normalizeEnc_encode]; exact hsig)
  · obtain ⟨pr, hpr, hattr, _⟩ := sb.proves (s := w3cAsSelected s) hp hq (Names.lookupNorm_some hl).2
    exact ⟨fun hnb => absurd hbool (hnb true), fun _ _ => ⟨pr, hpr, hattr⟩⟩

/-- W3C check: `add_sub_proof` succeeds for every derived credential; the contexts handed to the CL
verifier are those of the used entries, in order -/
theorem C04_check_w3c_subCtxs (hm : meetsDemandsW3C ctx pc r sel = true)
    (h : createPresentationW3C pc r sel holder session uid0 = some p) :
    ∃ cs, p.creds.mapM (VerifierW3C.subCtxFor ctx) = some cs ∧ cs.length = (usedOfW3C sel).length ∧
      ∀ (i : Nat) (c : SubCtx), cs[i]? = some c → ∃ s, (usedOfW3C sel)[i]? = some s ∧
        Verifier.subCtxOf ctx (identOf (w3cAsSelected s)) = some c := by
  have ch := createPresentationW3C_char h
  have m := meetsW3C_of hm
  obtain ⟨cs, hcs, hlen, hchar⟩ := List.mapM_exists_getElem? (xs := p.creds) (f := VerifierW3C.subCtxFor ctx)
    (P := fun i c => ∃ s, (usedOfW3C sel)[i]? = some s ∧
      Verifier.subCtxOf ctx (identOf (w3cAsSelected s)) = some c)
    (fun i c hi => by
      obtain ⟨s, sub, subj, hs, hadd, hb, rfl⟩ := ch.cred i c hi
      obtain ⟨sc, cd, hsc, hcd, hc⟩ := m.cl.subCtx_of (mem_used_asSelected hs)
      exact ⟨_, VerifierW3C.subCtxFor_eq_some_iff.mpr
        ⟨hc, (m.cl.sub_ok (mem_used_asSelected hs) hc (addSubProof_char hadd)).1⟩, s, hs, hc⟩)
  exact ⟨cs, hcs, by rw [hlen, ch.length], hchar⟩

/-- W3C check: the CL verification succeeds -/
theorem C04_check_w3c_cl (hm : meetsDemandsW3C ctx pc r sel = true)
    (h : createPresentationW3C pc r sel holder session uid0 = some p) {cs : List SubCtx}
    (hcs : p.creds.mapM (VerifierW3C.subCtxFor ctx) = some cs) :
    IdealCL.verify cs (p.creds.map (·.sub)) p.agg r.nonce true = some true := by
  have ch := createPresentationW3C_char h
  obtain ⟨cs', hcs', hlen, hchar⟩ := C04_check_w3c_subCtxs hm h
  rw [hcs] at hcs'; cases hcs'
  rw [ch.agg, show p.creds.map (fun c => (c.sub.uid, c.sub.nrp.isSome)) =
    (p.creds.map (·.sub)).map (fun s => (s.uid, s.nrp.isSome)) from by rw [List.map_map]; rfl]
  refine verify_built (used := (usedOfW3C sel).map w3cAsSelected) (holder := holder) (session := session)
    (meetsW3C_of hm).cl (by simp [ch.length]) (by simp [hlen]) (fun i sub hsub => ?_) (fun i c hc => ?_)
  · rw [List.getElem?_map] at hsub
    obtain ⟨c, hc, rfl⟩ := Option.map_eq_some_iff.mp hsub
    obtain ⟨s, sub, subj, hs, hadd, _, rfl⟩ := ch.cred i c hc
    exact ⟨w3cAsSelected s, by rw [List.getElem?_map, hs]; rfl, addSubProof_char hadd⟩
  · obtain ⟨s, hs, h⟩ := hchar i c hc
    exact ⟨w3cAsSelected s, by rw [List.getElem?_map, hs]; rfl, h⟩

/-- **C04 (W3C format): honest flows verify.** If the verifier's context, the prover's context, the
request and the selection meet `meetsDemandsW3C` — same schemas, the credential definitions that signed
the credentials with the credentials' issuers, subjects that carry what was signed, every requested
attribute and predicate referent served by an entry whose *derived* credential meets the referent's
restriction (evaluated on the derived subject: known finding F19) and non-revocation interval, good
revocation states for the registries and status lists the verifier supplies — then any presentation the
W3C `create_presentation` builds is accepted by the W3C `verify_presentation`: the verdict is `Ok(true)`. -/
theorem C04_w3c (hm : meetsDemandsW3C ctx pc r sel = true)
    (h : createPresentationW3C pc r sel holder session uid0 = some p) :
    verifyW3C ctx r p = .ok true := by
  have ch := createPresentationW3C_char h
  obtain ⟨cs, hcs, _⟩ := C04_check_w3c_subCtxs hm h
  have hl : listsOk ctx = true := (meetsW3C_of hm).lists
  have hproof : p.creds.all (·.proofOk) = true := by
    simp only [List.all_eq_true]
    intro c hc
    obtain ⟨i, hi⟩ := List.mem_iff_getElem?.mp hc
    obtain ⟨s, sub, subj, _, _, _, rfl⟩ := ch.cred i c hi
    rfl
  have hreq : requestDataOk ctx r p = true := by
    unfold requestDataOk
    rw [C04_check_w3c_attrs hm h, C04_check_w3c_preds hm h, C04_check_w3c_issuers hm h]
    rfl
  unfold verifyW3C
  simp only [ch.validateOk, hproof, hreq, C04_check_w3c_subjects hm h, ch.presProofOk, hl, hcs,
    C04_check_w3c_cl hm h hcs, Bool.not_true, Bool.false_eq_true, if_false]

end W3C

/-! ## non-vacuity: a small concrete world

One credential (schema attributes spelled differently by prover, verifier, credential and request:
`"a"`/`"A"`/`" a"`, `"c D"`/`"Cd"`/`"C d"`), values `a ↦ 25`, `b ↦ 7` (carried with the non-canonical
encoding `"007"`), `cd ↦ 3`, issued with revocation; an unused credential passed along. Request: a
revealed single (`B`, restricted by `cred_def_id`), an unrevealed single (`" a"`), a revealed group
(`b`, `c D`, `b` again; restricted by the revealed value of `b`; local non-revocation interval
`[lo, ∞)`), a self-attested attribute (legacy only), the predicate `A ≥ 18` (restricted by `schema_id`),
request-wide interval `(-∞, 100]`; timestamp 50 with a good revocation state. -/
section Examples
open AnonModel.VerifierW3C AnonModel.Query

private def wSym : SymCred :=
  { key := 1, attrs := [("a", "25"), ("b", "7"), ("cd", "3")], holder := 5, rev := some (9, 4) }
private def wCred : HeldCred :=
  { schemaId := "s1", credDefId := "cd1", revRegId := some "rr1",
    values := [("A", ("25", "25")), ("b", ("7", "007")), ("C d", ("3", "3"))], sym := wSym }
private def wAttrs (lo : Nat) : List (String × AttrInfo) :=
  [("r1", { name := some "B", names := none, restrictions := some (.eq "cred_def_id" "cd1"), nonRevoked := none }),
   ("r2", { name := some " a", names := none, restrictions := none, nonRevoked := none }),
   ("g1", { name := none, names := some ["b", "c D", "b"], restrictions := some (.eq "attr::b::value" "7"),
            nonRevoked := some ⟨some lo, none⟩ })]
private def wPreds : List (String × PredInfo) :=
  [("p1", { name := "A", ty := "GE", value := 18, restrictions := some (.eq "schema_id" "s1"), nonRevoked := none })]
/-- legacy request: additionally a self-attested attribute -/
private def wReq (lo : Nat) : Request :=
  { nonce := "n", preds := wPreds, nonRevoked := some ⟨none, some 100⟩,
    attrs := wAttrs lo ++ [("sa1", { name := some "x", names := none, restrictions := none, nonRevoked := none })] }
private def wReqW (lo : Nat) : Request :=
  { nonce := "n", preds := wPreds, nonRevoked := some ⟨none, some 100⟩, attrs := wAttrs lo }
private def wState : SymNrp := { regKey := 9, idx := 4, acc := 77, witOk := true }
private def wSel : List Selected :=
  [{ cred := { wCred with values := [] }, timestamp := none, revState := none, attrs := [], preds := [] },
   { cred := wCred, timestamp := some 50, revState := some wState,
     attrs := [("r1", true), ("r2", false), ("g1", true)], preds := ["p1"] }]
private def wSa : List (String × String) := [("sa1", "hello")]
private def wPc : PCtx := { schemas := [("s1", ["a", "B", "c D"])], credDefs := ["cd1"] }
private def wCtx (key : Nat) : Ctx :=
  { schemas := [("s1", { name := "sch", version := "1.0", issuerId := "iss", attrNames := ["A", "b", "Cd"] })],
    credDefs := [("cd1", { issuerId := "iss", key := key, revocable := true })],
    revRegDefs := some [("rr1", { regKey := 9 })],
    lists := some [{ regId := some "rr1", ts := some 50, acc := some 77 }],
    override := none }
private def wHeldW : HeldW3C :=
  { issuer := "iss", schemaId := "s1", credDefId := "cd1", revRegId := some "rr1",
    subject := [("A", .num 25), ("b", .str "7"), ("C d", .str "3")], sym := wSym }
private def wSelW : List SelectedW3C :=
  [{ cred := wHeldW, timestamp := none, revState := none, attrs := [], preds := [] },
   { cred := wHeldW, timestamp := some 50, revState := some wState,
     attrs := [("r1", true), ("r2", false), ("g1", true)], preds := ["p1"] }]

private theorem w_meets : meetsDemands (wCtx 1) wPc (wReq 10) wSel wSa = true := by decide +kernel
private theorem w_built : (createPresentation wPc (wReq 10) wSel wSa 5 1 0).isSome = true := by decide +kernel
set_option maxRecDepth 100000 in
example : meetsDemands (wCtx 1) wPc (wReq 10) wSel wSa = true := w_meets
set_option maxRecDepth 100000 in
example : (createPresentation wPc (wReq 10) wSel wSa 5 1 0).isSome = true := w_built
set_option maxRecDepth 100000 in
example : (createPresentation wPc (wReq 10) wSel wSa 5 1 0).map (verifyLegacy (wCtx 1) (wReq 10)) =
    some (.ok true) := by
  obtain ⟨p, hp⟩ := Option.isSome_iff_exists.mp w_built
  rw [hp]
  exact congrArg some (C04_legacy w_meets hp)
-- the hypotheses are not idle: a verifier holding another issuer key …
set_option maxRecDepth 100000 in
example : (meetsConjuncts (wCtx 2) wPc (wReq 10) wSel wSa).filter (fun c => !c.2) = [("credDefsAgree", false)] ∧
    (createPresentation wPc (wReq 10) wSel wSa 5 1 0).map (verifyLegacy (wCtx 2) (wReq 10)) = some (.ok false) := by
  decide +kernel
-- … or a timestamp before the local interval of the revealed group: the same presentation is refused
set_option maxRecDepth 100000 in
example : (meetsConjuncts (wCtx 1) wPc (wReq 60) wSel wSa).filter (fun c => !c.2) = [("intervalsMet", false)] ∧
    (createPresentation wPc (wReq 60) wSel wSa 5 1 0).map (verifyLegacy (wCtx 1) (wReq 60)) = some .err := by
  decide +kernel
private theorem wW_meets : meetsDemandsW3C (wCtx 1) wPc (wReqW 10) wSelW = true := by decide +kernel
set_option maxRecDepth 100000 in
example : meetsDemandsW3C (wCtx 1) wPc (wReqW 10) wSelW = true := wW_meets
set_option maxRecDepth 100000 in
example : (createPresentationW3C wPc (wReqW 10) wSelW 5 1 0).map (verifyW3C (wCtx 1) (wReqW 10)) =
    some (.ok true) := by
  obtain ⟨p, hp⟩ := Option.isSome_iff_exists.mp
    (by decide +kernel : (createPresentationW3C wPc (wReqW 10) wSelW 5 1 0).isSome = true)
  rw [hp]
  exact congrArg some (C04_w3c wW_meets hp)
set_option maxRecDepth 100000 in
example : (meetsConjunctsW3C (wCtx 1) wPc (wReqW 60) wSelW).filter (fun c => !c.2) = [("attrsServed", false)] ∧
    (createPresentationW3C wPc (wReqW 60) wSelW 5 1 0).map (verifyW3C (wCtx 1) (wReqW 60)) = some .err := by
  decide +kernel
end Examples

end AnonModel.Prover
