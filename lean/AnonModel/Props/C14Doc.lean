import AnonModel.Model.ProofDoc
import AnonModel.Model.Convert
/-!
# C14 — the stored document of a W3C credential still is that credential

"either form can be presented … conversion … preserves … its signature material": a W3C credential is handed over
and stored as a JSON document; what the library finds in the `proof` member after reading the document back decides
whether conversion and presentation are possible at all (`Convert.W3CMeta.signatureProofOk`, a free input of the
conversion model, is computed here from the document).
-/
namespace AnonModel.ProofDoc

theorem emitCP_parseCP (e : Entry) : emitCP (parseCP e) = e := by
  cases e with
  | sc s => cases s <;> rfl
  | nested _ => rfl

theorem anonOfCP_parseCP (e : Entry) : anonOfCP (parseCP e) = anonOfEntry e := by
  cases e with
  | sc s => cases s <;> rfl
  | nested _ => rfl

/-- serialising what was read gives the document back (no spelling is normalised away: an array of one stays an
array, a single object stays a single object) -/
theorem C14_doc_reserialise (d : Doc) : emit (parse d) = some d := by
  cases d with
  | arr es => simp [parse, emit, Function.comp_def, emitCP_parseCP]
  | val s => cases s <;> rfl

/-- no document parses to the shape `emit` cannot name -/
theorem parse_no_one_nested (d : Doc) (k : Nat) : parse d ≠ .one (.non (.nested k)) := by
  cases d with
  | arr es => simp [parse]
  | val s => cases s <;> simp [parse, parseCP]

/-- reading is stable: read, write, read again is the first reading -/
theorem C14_doc_parse_emit_parse (d : Doc) : (emit (parse d)).map parse = some (parse d) := by
  simp [C14_doc_reserialise]

/-- **what the library finds is what the document shows**: the AnonCreds proof used is the first one in the
document, in every spelling -/
theorem C14_doc_find (d : Doc) : find (parse d) = firstAnon d := by
  cases d with
  | arr es => simp [parse, find, firstAnon, List.findSome?_map, Function.comp_def, anonOfCP_parseCP]
  | val s => cases s <;> rfl

/-- the signature proof is available iff the first AnonCreds proof of the document is an assertion holding a
credential signature — and it is that proof's value -/
theorem C14_doc_signature_iff (d : Doc) (i : Nat) :
    sigProof (parse d) = some i ↔ ∃ a, firstAnon d = some a ∧ a.purpose = .assertion ∧ a.kind = .signature ∧ a.id = i := by
  simp only [sigProof, C14_doc_find, Option.bind_eq_some_iff, sigOf, Option.ite_none_right_eq_some,
    Option.some.injEq, and_assoc]

/-- the three spellings of "this credential has exactly this one AnonCreds proof" are read alike: the array of one
(what the library emits), the single object, and the proof after any number of foreign proofs or nested arrays -/
theorem C14_doc_spellings (a : Anon) (fs rest : List Entry) (hfs : ∀ e ∈ fs, anonOfEntry e = none) :
    find (parse (.val (.anon a))) = some a ∧
    find (parse (.arr [.sc (.anon a)])) = some a ∧
    find (parse (.arr (fs ++ .sc (.anon a) :: rest))) = some a := by
  refine ⟨rfl, rfl, ?_⟩
  simp only [C14_doc_find, firstAnon, List.findSome?_append, List.findSome?_eq_none_iff.mpr hfs, Option.none_or]
  rfl

/-- **a credential the library built survives its own document**: issued or converted (`W3CCredential::new`), written
out and read back, its signature proof is still found and is the same one -/
theorem C14_doc_new_credential_survives (i : Nat) :
    ∃ d, emit (newCredential i) = some d ∧ parse d = newCredential i ∧ sigProof (parse d) = some i :=
  ⟨.arr [.sc (.anon ⟨.assertion, .signature, i⟩)], rfl, rfl, rfl⟩

theorem sigProof_of_new {i : Nat} {d : Doc} (hd : emit (newCredential i) = some d) :
    sigProof (parse d) = some i := by
  cases hd; rfl

/-- and so does a credential inside a presentation (`W3CCredential::derive`) -/
theorem C14_doc_derived_credential_survives (i : Nat) :
    ∃ d, emit (derivedCredential i) = some d ∧ parse d = derivedCredential i ∧ presProof (parse d) = some i ∧ sigProof (parse d) = none :=
  ⟨.val (.anon ⟨.assertion, .credPresentation, i⟩), rfl, rfl, rfl, rfl⟩

/-- only the first AnonCreds proof counts: a signature proof behind a presentation proof is not consulted -/
theorem C14_doc_first_only (a b : Anon) (h : sigOf a = none) (rest : List Entry) :
    sigProof (parse (.arr (.sc (.anon a) :: .sc (.anon b) :: rest))) = none := by
  simp [sigProof, parse, find, parseCP, List.findSome?, anonOfCP, h]

/-- a document without an AnonCreds proof has neither proof, whatever else it holds -/
theorem C14_doc_foreign_only (d : Doc) (h : firstAnon d = none) : sigProof (parse d) = none ∧ presProof (parse d) = none := by
  simp [sigProof, presProof, C14_doc_find, h]

/-! ## the conversion model with the ghost input computed from the document -/

open AnonModel.Convert in
/-- `credential_from_w3c` on a credential read from a document whose `proof` member has shape `d` -/
def fromW3CDoc (m : Convert.W3CMeta) (d : Doc) (subj : Convert.Subject) : Option Convert.Values :=
  Convert.fromW3C { m with signatureProofOk := (sigProof (parse d)).isSome } subj

/-- a stored credential that the library built converts back exactly as the live object does -/
theorem C14_doc_conversion_of_stored (m : Convert.W3CMeta) (i : Nat) (subj : Convert.Subject) (d : Doc)
    (hd : emit (newCredential i) = some d) :
    fromW3CDoc m d subj = Convert.fromW3C { m with signatureProofOk := true } subj := by
  unfold fromW3CDoc
  rw [sigProof_of_new hd]; rfl

/-- a document whose first AnonCreds proof is not a credential signature is refused -/
theorem C14_doc_conversion_refused (m : Convert.W3CMeta) (d : Doc) (subj : Convert.Subject)
    (h : sigProof (parse d) = none) : fromW3CDoc m d subj = none := by
  unfold fromW3CDoc Convert.fromW3C
  simp [h]

example : sigProof (parse (.arr [.sc (.other 3), .nested 1, .sc (.anon ⟨.assertion, .signature, 7⟩)])) = some 7 := by decide +kernel
example : sigProof (parse (.arr [.sc (.anon ⟨.authentication, .signature, 1⟩), .sc (.anon ⟨.assertion, .signature, 7⟩)])) = none := by decide +kernel
example : presProof (parse (.val (.anon ⟨.assertion, .credPresentation, 2⟩))) = some 2 := by decide +kernel

end AnonModel.ProofDoc
