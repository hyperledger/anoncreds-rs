import AnonModel.Lemmas.StatusList
/-!
# C10 — revocation states track the status list

The property theorems and the definition `ScratchValidClaim` (helpers: `Lemmas/StatusList.lean`; model:
`Model/StatusList.lean`).

Setting: a registry of size `L` created in mode `byDefault`; `Reachable L byDefault s`
ranges over every status list any history of that registry can produce.  A holder's
revocation state for a list `s` is (witness, `s.acc`, `s.ts`); its non-revocation
proof verifies against `s` iff `WitnessValid k s.acc w` (trusted-base idealisation).
Derivations: from scratch (`witnessScratch`), incrementally (`witnessUpdate`), or the
issuer-supplied witness (`issueAgainst`, second component) used as is.

**Finding (F12).** The from-scratch derivation hard-codes "issuance by default" over
the indices `1…L`.  It is valid exactly for by-default registries whose position 0 is
not revoked (`C10_scratch_valid_iff_by_default`) and for **no** list of an on-demand
registry (`C10_scratch_on_demand_never_valid`).  The full claim is kept below as the
definition `ScratchValidClaim` and refuted (`C10_scratch_valid_refuted`).
-/
namespace AnonModel.StatusList

/-- **the issuer witness is valid for the accumulator embedded in the credential** —
both modes, every reachable list, every index for which `create_credential` succeeds
(`1 ≤ k ≤ L` and position `k` exists, i.e. `1 ≤ k < L`); no further precondition.
In particular it holds when entry `k` is still set (on-demand issuance: the embedded
accumulator already contains `k`) and when it is clear (by default / re-issue). -/
theorem C10_issuer_witness_valid {L : Nat} {byDefault : Bool} {s : SL} (hr : Reachable L byDefault s)
    {k : Nat} {A w : Acc} (h : issueAgainst L s k = some (A, w)) : WitnessValid k A w := by
  -- `A = acc + [b]·e_k` and `w = acc - [¬b]·e_k` agree off `k`, and `acc_k = [¬b]`
  obtain ⟨b, hb, hk1, _, rfl, rfl⟩ := issueAgainst_eq_some h
  refine ⟨?_, fun j hj => by rw [accAdd_ne _ _ hj, accAdd_ne _ _ hj]⟩
  rw [accAdd_self, reachable_acc_idx hr hb hk1]
  cases b <;> rfl

/-- the issuer-supplied witness, used unchanged (`create_revocation_state_with_witness`),
verifies against every list whose accumulator is the embedded one — e.g. the list
after the matching issue update (`C09_issued_credential_embeds`) and after any number
of timestamp-only or no-op updates of it -/
theorem C10_with_witness_valid {L : Nat} {byDefault : Bool} {s t : SL} (hr : Reachable L byDefault s)
    {k : Nat} {A w : Acc} (h : issueAgainst L s k = some (A, w)) (hacc : t.acc = A) :
    WitnessValid k t.acc w := hacc ▸ C10_issuer_witness_valid hr h

/-- core of the incremental derivation: a witness that agrees off `k` with the
accumulator of *some* list of the registry — older **or** newer, `k` valid there or
not — is turned by `Witness::update` over the index deltas into a valid witness for
any other list of the registry in which `k` is non-revoked. -/
theorem C10_update_valid_of_agree {L : Nat} {byDefault : Bool} {old new : SL}
    (ho : Reachable L byDefault old) (hn : Reachable L byDefault new) {k : Nat} {w w' : Acc}
    (hagree : ∀ j, j ≠ k → w j = old.acc j) (hk : new.bits[k]? = some false)
    (hu : witnessUpdate L w old new k = some w') : WitnessValid k new.acc w' := by
  obtain ⟨_, hk1, _, _, rfl⟩ := witnessUpdate_eq_some_iff.mp hu
  refine ⟨reachable_acc_idx hn hk hk1, fun j hj => ?_⟩
  rw [updVec, if_neg hj, hagree j hj, reachable_acc_diff ho hn j]

/-- **incremental update preserves validity**, for every ordered pair of lists of the
same registry — older→newer and newer→older alike (no order is assumed): a witness
valid for `old` becomes a witness valid for `new` whenever `k` is non-revoked in `new`. -/
theorem C10_update_preserves {L : Nat} {byDefault : Bool} {old new : SL}
    (ho : Reachable L byDefault old) (hn : Reachable L byDefault new) {k : Nat} {w w' : Acc}
    (hv : WitnessValid k old.acc w) (hk : new.bits[k]? = some false)
    (hu : witnessUpdate L w old new k = some w') : WitnessValid k new.acc w' :=
  C10_update_valid_of_agree ho hn hv.2 hk hu

/-- the incremental derivation does not fail for a credential index (`1 ≤ k < L`) and a
target list carrying a timestamp.  (`create_or_update_revocation_state` returns `Err`
for a list without timestamp; for `k = L` it can fail on a missing tail.) -/
theorem C10_update_ok {L : Nat} {byDefault : Bool} {old new : SL} (hn : Reachable L byDefault new)
    {k : Nat} (w : Acc) (hk1 : 1 ≤ k) (hkL : k < L) (hts : new.ts ≠ none) :
    (witnessUpdate L w old new k).isSome = true :=
  witnessUpdate_isSome w hts hk1 hkL (by rw [reachable_length hn]; exact Nat.le_refl L)

/-- the usual holder flow: the issuer witness obtained against list `s` (where `k` may
not even be issued yet), updated from `s` to any list of the registry in which `k` is
non-revoked, is valid there — although it is in general *not* valid for `s` itself. -/
theorem C10_issuer_witness_updated_valid {L : Nat} {byDefault : Bool} {s new : SL}
    (hs : Reachable L byDefault s) (hn : Reachable L byDefault new) {k : Nat} {A w w' : Acc}
    (hi : issueAgainst L s k = some (A, w)) (hk : new.bits[k]? = some false)
    (hu : witnessUpdate L w s new k = some w') : WitnessValid k new.acc w' := by
  obtain ⟨_, _, _, _, _, rfl⟩ := issueAgainst_eq_some hi
  exact C10_update_valid_of_agree hs hn (fun j hj => accAdd_ne _ _ hj) hk hu

/-! ### all derivations agree -/

/-- two valid witnesses for the same index and accumulator agree off `k` -/
theorem C10_valid_unique {k : Nat} {A w₁ w₂ : Acc} (h₁ : WitnessValid k A w₁) (h₂ : WitnessValid k A w₂) :
    ∀ j, j ≠ k → w₁ j = w₂ j := fun j hj => (h₁.2 j hj).trans (h₂.2 j hj).symm

/-- every derivation of the model yields `w_k = 0`: from scratch, the issuer witness
of a reachable list, and the incremental update of a witness that has it -/
theorem C10_derived_wk_zero {L : Nat} {byDefault : Bool} {s old new : SL} {k : Nat} {A w w₀ w' : Acc} :
    (witnessScratch L s k = some w → w k = 0) ∧
    (Reachable L byDefault s → issueAgainst L s k = some (A, w) → w k = 0) ∧
    (witnessUpdate L w₀ old new k = some w' → w₀ k = 0 → w' k = 0) :=
  ⟨wk_zero_scratch, fun hr h => wk_zero_issue hr h, fun h h0 => (wk_update h).trans h0⟩

/-- **all derivations yield the same witness**: valid witnesses with `w_k = 0` (which
every derivation produces, `C10_derived_wk_zero`) for the same index and accumulator
are equal as vectors, hence the same group element. -/
theorem C10_valid_unique_full {k : Nat} {A w₁ w₂ : Acc} (h₁ : WitnessValid k A w₁) (h₂ : WitnessValid k A w₂)
    (z₁ : w₁ k = 0) (z₂ : w₂ k = 0) : w₁ = w₂ := by
  funext j
  by_cases hj : j = k
  · subst hj; rw [z₁, z₂]
  · exact C10_valid_unique h₁ h₂ j hj

/-- for such witnesses the trusted-base definition is the coefficient-wise pairing
equation `A_j - w_j = [j = k]` -/
theorem C10_valid_iff_pairing {k : Nat} {A w : Acc} (hk : w k = 0) :
    WitnessValid k A w ↔ ∀ j, A j - w j = if j = k then 1 else 0 := witnessValid_iff_pairing hk

/-- **no derivation helps a revoked index**: if entry `k` is set in a reachable list,
the accumulator has multiplicity `≠ 1` at `k` (0, or -1 for position 0 of a by-default
registry), so *no* vector whatsoever is a valid witness. -/
theorem C10_revoked_no_witness {L : Nat} {byDefault : Bool} {s : SL} (hr : Reachable L byDefault s)
    {k : Nat} (hk : s.bits[k]? = some true) : s.acc k ≠ 1 ∧ ¬ ∃ w, WitnessValid k s.acc w := by
  have := reachable_acc_revoked_idx hr hk
  refine ⟨by omega, ?_⟩
  rintro ⟨w, h1, _⟩
  omega

/-- **proofs against earlier lists keep verifying**: validity is a function of
`(k, A_old, w)` only.  Whatever is applied to the registry afterwards — including
revoking `k` — the earlier list `t` is still the recorded state at the same place of
the history (functional model; Rust: updates work on a clone), so a witness valid for
it stays valid for it, while the same witness is rejected against the latest list if
`k` is revoked there. -/
theorem C10_earlier_lists_keep_verifying {L : Nat} {byDefault : Bool} {s₀ : SL}
    (hr : Reachable L byDefault s₀) (ops later : List Op) {i : Nat} {t : SL}
    (ht : (runFrom s₀ ops)[i]? = some t) {k : Nat} {w : Acc} (hv : WitnessValid k t.acc w) :
    (runFrom s₀ (ops ++ later))[i]? = some t ∧ WitnessValid k t.acc w ∧
    ((final s₀ (ops ++ later)).bits[k]? = some true →
      ¬ WitnessValid k (final s₀ (ops ++ later)).acc w) := by
  refine ⟨getElem?_runFrom_append ht later, hv, fun hk hv' => ?_⟩
  exact (C10_revoked_no_witness (final_reachable hr (ops ++ later)) hk).2 ⟨w, hv'⟩

/-! ### from scratch (the target, and why it fails) -/

/-- The claim as the property wants it (**false**, see `C10_scratch_valid_refuted`):
for every reachable list with a timestamp and every credential index non-revoked in
it, the from-scratch derivation yields a valid witness. -/
def ScratchValidClaim : Prop :=
  ∀ (L : Nat) (byDefault : Bool) (s : SL) (k : Nat) (w : Acc),
    Reachable L byDefault s → 1 ≤ k → k < L → s.bits[k]? = some false →
    witnessScratch L s k = some w → WitnessValid k s.acc w

/-- the from-scratch derivation returns a value exactly for `1 ≤ k ≤ L` and a list
carrying a timestamp (`Err` otherwise) -/
theorem C10_scratch_ok_iff (L : Nat) (s : SL) (k : Nat) :
    (witnessScratch L s k).isSome = true ↔ s.ts ≠ none ∧ 1 ≤ k ∧ k ≤ L := by
  simp [Option.isSome_iff_exists, witnessScratch_eq_some_iff]

/-- **by-default registries: valid iff position 0 is not revoked.**  (State-based:
position 0 revoked and later re-issued is fine again.) -/
theorem C10_scratch_valid_iff_by_default {L : Nat} {s : SL} (hr : Reachable L true s) {k : Nat} {w : Acc}
    (hk : s.bits[k]? = some false) (hw : witnessScratch L s k = some w) :
    WitnessValid k s.acc w ↔ s.bits[0]? ≠ some true := by
  obtain ⟨_, hk1, hkL, rfl⟩ := witnessScratch_eq_some_iff.mp hw
  have hacc := reachable_acc hr
  constructor
  · intro hv h0
    have := hv.2 0 (by omega)
    rw [hacc, accOf_byDefault] at this
    simp [scratchVec, h0] at this
  · intro h0
    refine ⟨reachable_acc_idx hr hk hk1, fun j hj => ?_⟩
    rw [hacc, accOf_byDefault]
    by_cases hj0 : j = 0
    · subst hj0; simp [scratchVec, h0]
    · by_cases hjL : j ≤ L
      · have h1 : 1 ≤ j ∧ j ≤ L := by omega
        by_cases hb : s.bits[j]? = some true <;> simp [scratchVec, hj, h1, hb]
      · have hb : s.bits[j]? = none := List.getElem?_eq_none (by rw [reachable_length hr]; omega)
        have h1 : ¬ (1 ≤ j ∧ j ≤ L) := by omega
        simp [scratchVec, hb, h1]

/-- **partial result** for `ScratchValidClaim`: registries created with issuance by
default, lists in which position 0 is not revoked.  Missing for the full claim:
on-demand registries (never valid) and by-default lists with position 0 revoked. -/
theorem C10_scratch_valid_partial {L : Nat} {s : SL} (hr : Reachable L true s) {k : Nat} {w : Acc}
    (hk : s.bits[k]? = some false) (h0 : s.bits[0]? ≠ some true)
    (hw : witnessScratch L s k = some w) : WitnessValid k s.acc w :=
  (C10_scratch_valid_iff_by_default hr hk hw).mpr h0

/-- **on-demand registries: the from-scratch witness is never valid** — for no list,
no index: it always contains index `L` (which has no list position, so it can never be
marked revoked), while an on-demand accumulator never does. -/
theorem C10_scratch_on_demand_never_valid {L : Nat} {s : SL} (hr : Reachable L false s) {k : Nat} {w : Acc}
    (hw : witnessScratch L s k = some w) : ¬ WitnessValid k s.acc w := by
  obtain ⟨_, hk1, hkL, rfl⟩ := witnessScratch_eq_some_iff.mp hw
  have hacc := reachable_acc hr
  have hL : s.bits[L]? = none := List.getElem?_eq_none (by rw [reachable_length hr]; omega)
  rintro ⟨h1, h2⟩
  by_cases hk : k = L
  · subst hk
    rw [hacc, accOf_onDemand] at h1
    simp [hL] at h1
  · have := h2 L (fun h => hk h.symm)
    rw [hacc, accOf_onDemand] at this
    have hne : L ≠ k := fun h => hk h.symm
    have h1L : 1 ≤ L := by omega
    simp [scratchVec, hL, hne, h1L] at this

/-- concrete counterexample, issuance on demand: registry of size 3, credential 1
issued; the from-scratch state for index 1 is derived without error and is invalid
(it claims index 3, the accumulator has only index 1), whereas the issuer witness for
the same credential is valid for the same accumulator. -/
theorem C10_scratch_refuted_on_demand :
    let s₀ := create 3 false (some 10)
    let s := update s₀ (some [1]) none none
    Reachable 3 false s ∧ s.bits = [true, false, true] ∧
    (witnessScratch 3 s 1).isSome = true ∧
    (∀ w, witnessScratch 3 s 1 = some w → w 3 = 1 ∧ s.acc 3 = 0 ∧ ¬ WitnessValid 1 s.acc w) ∧
    (∃ A w, issueAgainst 3 s₀ 1 = some (A, w) ∧ accEqB 4 A s.acc = true ∧ witnessValidB 4 1 s.acc w = true) := by
  refine ⟨.update _ _ _ (.create _), by decide, by decide, ?_, ?_⟩
  · intro w hw
    obtain ⟨_, _, _, rfl⟩ := witnessScratch_eq_some_iff.mp hw
    refine ⟨by decide, by decide, fun h => ?_⟩
    have := h.2 3 (by decide)
    revert this; decide
  · exact ⟨_, _, rfl, by decide, by decide⟩

/-- concrete counterexample, issuance by default with position 0 revoked: registry of
size 3, credential 1 non-revoked; the accumulator has multiplicity -1 at index 0, the
from-scratch witness 0. -/
theorem C10_scratch_refuted_pos0 :
    let s := update (create 3 true (some 10)) none (some [0]) none
    Reachable 3 true s ∧ s.bits = [true, false, false] ∧
    (witnessScratch 3 s 1).isSome = true ∧
    (∀ w, witnessScratch 3 s 1 = some w → w 0 = 0 ∧ s.acc 0 = -1 ∧ ¬ WitnessValid 1 s.acc w) := by
  refine ⟨.update _ _ _ (.create _), by decide, by decide, ?_⟩
  intro w hw
  obtain ⟨_, _, _, rfl⟩ := witnessScratch_eq_some_iff.mp hw
  refine ⟨by decide, by decide, fun h => ?_⟩
  have := h.2 0 (by decide)
  revert this; decide

/-- the full claim is false -/
theorem C10_scratch_valid_refuted : ¬ ScratchValidClaim := by
  intro h
  obtain ⟨hr, _, hs, hno, _⟩ := C10_scratch_refuted_on_demand
  obtain ⟨w, hw⟩ := Option.isSome_iff_exists.mp hs
  exact (hno w hw).2.2 (h 3 false _ 1 w hr (by decide) (by decide) (by decide) hw)

/-! ### the executable checks are exact on everything the model derives -/

/-- for reachable lists and derived witnesses the bounded Boolean check used by the
driver decides `WitnessValid`, and bounded equality decides equality of accumulators -/
theorem C10_checks_exact {L : Nat} {byDefault : Bool} {s t : SL} (hs : Reachable L byDefault s)
    (ht : Reachable L byDefault t) {k : Nat} {w : Acc} (hw : Supp (L + 1) w) :
    (witnessValidB (L + 1) k s.acc w = true ↔ WitnessValid k s.acc w) ∧
    (accEqB (L + 1) s.acc t.acc = true ↔ s.acc = t.acc) :=
  ⟨witnessValidB_iff (reachable_supp hs) hw, accEqB_iff (reachable_supp hs) (reachable_supp ht)⟩

/-- every derived witness (and embedded accumulator) vanishes above `L` -/
theorem C10_derived_supp {L : Nat} {byDefault : Bool} {s old new : SL} {k : Nat} {A w w₀ w' : Acc} :
    (witnessScratch L s k = some w → Supp (L + 1) w) ∧
    (Reachable L byDefault s → issueAgainst L s k = some (A, w) → Supp (L + 1) A ∧ Supp (L + 1) w) ∧
    (Reachable L byDefault new → witnessUpdate L w₀ old new k = some w' → Supp (L + 1) w₀ → Supp (L + 1) w') :=
  ⟨supp_scratch, fun hr h => supp_issue hr h,
   fun hr h h0 => supp_witnessUpdate h h0 (by rw [reachable_length hr]; exact Nat.le_refl L)⟩

example :
    let s₀ := create 4 true (some 1)
    let s₁ := update s₀ none (some [2]) (some 2)       -- revoke 2
    let s₂ := update s₁ (some [2]) (some [3]) (some 3) -- re-issue 2, revoke 3
    ∃ a b c d A e,
      witnessScratch 4 s₂ 1 = some a ∧ witnessScratch 4 s₀ 1 = some b ∧
      witnessUpdate 4 b s₀ s₂ 1 = some c ∧ witnessUpdate 4 a s₂ s₀ 1 = some d ∧
      issueAgainst 4 s₂ 1 = some (A, e) ∧
      witnessValidB 5 1 s₂.acc a = true ∧ witnessValidB 5 1 s₂.acc c = true ∧
      witnessValidB 5 1 s₀.acc d = true ∧ accEqB 5 a c = true ∧ accEqB 5 b d = true ∧
      accEqB 5 a e = true ∧ accEqB 5 A s₂.acc = true :=
  ⟨_, _, _, _, _, _, rfl, rfl, rfl, rfl, rfl, by decide +kernel⟩

example :
    let s₀ := create 4 false (some 1)
    let s₁ := update s₀ (some [1]) none none
    let s₂ := update s₁ (some [2]) none none
    let s₃ := update s₂ none (some [1]) none
    ∃ A w w', issueAgainst 4 s₀ 1 = some (A, w) ∧ witnessUpdate 4 w s₀ s₂ 1 = some w' ∧
      witnessValidB 5 1 s₁.acc w = true ∧ witnessValidB 5 1 s₂.acc w = false ∧
      witnessValidB 5 1 s₂.acc w' = true ∧ witnessValidB 5 1 s₃.acc w' = false ∧ s₃.acc 1 = 0 :=
  ⟨_, _, _, rfl, rfl, by decide +kernel⟩

example : ∃ s, Reachable 3 true s ∧ s.bits[1]? = some true :=
  ⟨update (create 3 true none) none (some [1]) none, .update _ _ _ (.create _), by decide +kernel⟩

end AnonModel.StatusList
