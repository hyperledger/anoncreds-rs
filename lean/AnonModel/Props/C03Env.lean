import AnonModel.Model.Envelope
import AnonModel.Model.VerifierW3C
/-!
# C03 (W3C) — the envelope of a presentation, read from the document

The driver computes `VerifierW3C.Presentation.validateOk` from the `@context` list and `type` set the document shows
(`Envelope.presValid`). These theorems say what that means for the verdict.
-/
namespace AnonModel.Envelope
open AnonModel.VerifierW3C (verifyW3C)
open AnonModel.Verifier (Request Outcome)

/-- what `W3CPresentation::validate` demands, on the document -/
theorem presValid_iff (cs : List Ctx) (ts : List String) :
    presValid cs ts = true ↔
      ∃ v, version cs = some v ∧ (v = .v11 → Ctx.uri .dataIntegrity ∈ cs) ∧ vocab ∈ cs ∧ presentationType ∈ ts := by
  unfold presValid ctxValid
  cases hv : version cs with
  | none => simp
  | some v => cases v <;> simp [and_assoc]

/-- a presentation whose envelope is not well-formed is refused with an error, whatever it holds -/
theorem C03_w3c_envelope_refused (ctx : Verifier.Ctx) (r : Request) (p : VerifierW3C.Presentation) (cs : List Ctx) (ts : List String)
    (h : presValid cs ts = false) :
    verifyW3C ctx r { p with validateOk := presValid cs ts } = .err := by
  simp [verifyW3C, h]

/-- an accepted presentation has a well-formed envelope: its first context names a data-model version, a 1.1 document lists
the data-integrity context, the issuer-dependent vocabulary is listed and the type set holds `VerifiablePresentation` -/
theorem C03_w3c_accepted_envelope (ctx : Verifier.Ctx) (r : Request) (p : VerifierW3C.Presentation) (cs : List Ctx) (ts : List String)
    (h : verifyW3C ctx r { p with validateOk := presValid cs ts } = .ok true) :
    ∃ v, version cs = some v ∧ (v = .v11 → Ctx.uri .dataIntegrity ∈ cs) ∧ vocab ∈ cs ∧ presentationType ∈ ts := by
  rw [← presValid_iff]
  cases hp : presValid cs ts with
  | true => rfl
  | false => rw [C03_w3c_envelope_refused ctx r p cs ts hp] at h; cases h

/-- the envelope reaches the verdict through its validity only: two well-formed envelopes (e.g. the 1.1 and the 2.0 form,
or any order of the entries behind the first) give the same verdict -/
theorem C03_w3c_envelope_only_validity (ctx : Verifier.Ctx) (r : Request) (p : VerifierW3C.Presentation)
    (cs₁ cs₂ : List Ctx) (ts₁ ts₂ : List String) (h : presValid cs₁ ts₁ = presValid cs₂ ts₂) :
    verifyW3C ctx r { p with validateOk := presValid cs₁ ts₁ } = verifyW3C ctx r { p with validateOk := presValid cs₂ ts₂ } := by
  rw [h]

end AnonModel.Envelope
