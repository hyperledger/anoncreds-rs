import AnonModel.Model.IssuanceW3C
import AnonModel.Props.C14Doc
/-!
# C11 (W3C) — processing the credential as the document the issuer sent

`processCredentialW3C` takes "the proof of the credential holds a credential signature" as a Boolean input; `processStored`
reads it from the `proof` member of the document that arrives (`Model/ProofDoc`).
-/
namespace AnonModel.IssuanceW3C
open AnonModel.Issuance AnonModel.Convert AnonModel.ProofDoc

/-- `w3c::prover::process_credential` on a credential read from a document whose `proof` member has shape `d` -/
def processStored (c : CredentialW3C) (d : Doc) (m : ReqMeta) (holder : Nat) (cd : CredDef) : Bool :=
  processCredentialW3C c (sigProof (parse d)).isSome m holder cd

/-- the credential the issuer's library wrote (`W3CCredential::new`), sent as a document, is processed exactly as the live
object would be -/
theorem C11_w3c_process_stored (c : CredentialW3C) (m : ReqMeta) (holder : Nat) (cd : CredDef) (i : Nat) (d : Doc)
    (hd : emit (newCredential i) = some d) :
    processStored c d m holder cd = processCredentialW3C c true m holder cd := by
  unfold processStored
  rw [sigProof_of_new hd]; rfl

/-- a document whose first AnonCreds proof is not a credential signature (a credential cut out of a presentation, a
foreign proof only, an authentication proof) is not accepted as an issued credential -/
theorem C11_w3c_process_stored_refused (c : CredentialW3C) (m : ReqMeta) (holder : Nat) (cd : CredDef) (d : Doc)
    (h : sigProof (parse d) = none) : processStored c d m holder cd = false := by
  unfold processStored processCredentialW3C
  cases subjectEncode c.subject <;> simp [h]

end AnonModel.IssuanceW3C
