import AnonModel.Gen.Consts
import AnonModel.Model.Query
/-! # C06 / C16: the internal-tag pattern and the qualifiable tags the query model was written for are the ones in `/repo` -/
namespace AnonModel.GenConsts
open AnonModel.Gen

/-- C06/C16: the internal-tag pattern of `services/verifier.rs` -/
theorem C16_internal_tag_literal_unchanged : re_INTERNAL_TAG_MATCHER = "^attr::([^:]+)::(value|marker)$" := rfl

/-- C16: `Credential::QUALIFIABLE_TAGS` -/
theorem C16_qualifiable_tags_unchanged : qualifiableTags = Query.qualifiableTags := rfl

end AnonModel.GenConsts
