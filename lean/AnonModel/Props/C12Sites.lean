import AnonModel.Model.PanicRegistry
/-!
# C12 — every panicking expression of the anchored code is accounted for

Regenerated table (`Gen/PanicSites.lean`, from `/repo` on every run) against the hand-written
registry of guards. `decide +kernel` over the whole generated table.
-/
namespace AnonModel.PanicRegistry
open AnonModel.Gen

/-- every `unwrap` / `expect` / `unreachable!` / `panic!` / index expression that the translator finds in
the non-test code of the files anchored by C12 is registered with the guard that makes it unreachable on
untrusted input (or is a prover-side site outside the claim) -/
theorem C12_all_sites_registered : ∀ s ∈ panicSites, s ∈ registeredSites := by decide +kernel

/-- conversely the registry holds no stale entries (a guard written down for code that no longer exists
would hide the fact that nobody re-examined the function) -/
theorem C12_no_stale_registration : ∀ s ∈ registeredSites, s ∈ panicSites := by decide +kernel

/-- the verifier files themselves contain no index expression and no `expect`/`unreachable!`/`panic!` -/
theorem C12_verifier_only_unwraps :
    ∀ s ∈ panicSites, (s.file = "src/services/verifier.rs" ∨ s.file = "src/services/w3c/verifier.rs") → s.kind = "unwrap" := by
  decide +kernel

/-- the W3C verifier has no panicking expression at all -/
theorem C12_w3c_verifier_has_no_sites : ∀ s ∈ panicSites, s.file ≠ "src/services/w3c/verifier.rs" := by decide +kernel

example : panicSites ≠ [] := by decide

end AnonModel.PanicRegistry
