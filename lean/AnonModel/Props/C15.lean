import AnonModel.Lemmas.Wire
import AnonModel.Lemmas.MapM
/-!
# C15 — every exchanged object survives its wire format with identical meaning (hand-written codecs)

"Every exchanged object survives its wire format with identical meaning … serialising the
deserialised object again yields the same document."

This file: the four hand-written (de)serialisers of the library (`Model/Wire.lean`) — `Nonce`,
`serde_revocation_list`, the `ver` member of a presentation request, and the untagged
`CredentialAttributeValue`. The other codecs that are modelled have `Props/C15*.lean` files of
their own.

The property theorems and the number invariant `Num.Wf` / `WfNum`; helper lemmas are in
`Lemmas/Wire.lean`.

`WJson` carries no invariant in its type. Where a statement depends on the number representation
of `serde_json` (`PosInt(u64)` / `NegInt(i64)` *always negative* / `Float`) the invariant is the
explicit hypothesis `WfNum`.
-/
namespace AnonModel.Wire
open AnonModel.Flows

/-- the representation invariant of `serde_json::Number` stated in `Model/Wire.lean: Num`:
`PosInt` holds a `u64`, `NegInt` holds a strictly negative `i64` -/
def Num.Wf : Num → Prop
  | .pos n => n < 2 ^ 64
  | .neg n => -(2 ^ 63 : Int) ≤ n ∧ n < 0
  | .float => True

/-- a JSON value that, if it is a number, is one `serde_json` can hand to a visitor -/
def WfNum (j : WJson) : Prop := ∀ k, j = .num k → k.Wf

/-- `Nonce::from_dec` accepts exactly the non-empty ASCII-digit strings and keeps them as given. -/
theorem C15_nonce_fromDec_iff (s t : String) :
    nonceFromDec s = some t ↔ t = s ∧ s ≠ "" ∧ ∀ c ∈ s.toList, c.isDigit = true :=
  nonceFromDec_eq_some_iff s t

/-- **a digit string is kept verbatim** (leading zeros included): reading the JSON string `s`
gives the nonce that prints as `s`, for every non-empty run of ASCII digits. -/
theorem C15_nonce_string_kept {s : String} (hne : s ≠ "") (hd : ∀ c ∈ s.toList, c.isDigit = true) :
    nonceDe (.str s) = some s := by
  simp only [nonceDe]; exact (C15_nonce_fromDec_iff s s).mpr ⟨rfl, hne, hd⟩

/-- a JSON string is read as a nonce iff it is a non-empty run of ASCII digits, and then as itself -/
theorem C15_nonce_string_iff (s t : String) :
    nonceDe (.str s) = some t ↔ t = s ∧ s ≠ "" ∧ ∀ c ∈ s.toList, c.isDigit = true := by
  simp only [nonceDe]; exact C15_nonce_fromDec_iff s t

/-- whatever form was read, the nonce prints as a non-empty run of ASCII digits -/
theorem C15_nonce_printed_is_digits {j : WJson} {s : String} (h : nonceDe j = some s) :
    s ≠ "" ∧ ∀ c ∈ s.toList, c.isDigit = true :=
  nonceDe_digits h

/-- **serialise ∘ deserialise is stable**: if a document `j` was read as a nonce that prints as
`s`, then the printed document (the JSON string `s`) is read as the nonce that prints as `s`
again. Hence `ser ∘ de ∘ ser ∘ de = ser ∘ de`, and on the library's own output (`j = .str s`)
`ser ∘ de` is the identity. -/
theorem C15_nonce_ser_de {j : WJson} {s : String} (h : nonceDe j = some s) :
    nonceDe (.str s) = some s := by
  obtain ⟨h1, h2⟩ := C15_nonce_printed_is_digits h
  exact C15_nonce_string_kept h1 h2

/-- the same with the model's name for "print, then read" -/
theorem C15_nonce_roundtrip {j : WJson} {s : String} (h : nonceDe j = some s) :
    nonceRoundTrip s = some s := C15_nonce_ser_de h

/-- a non-negative JSON integer is read as the nonce printing as its decimal form -/
theorem C15_nonce_number (n : Nat) : nonceDe (.num (.pos n)) = some (Nat.repr n) := rfl

/-- the byte loop on an array of non-negative integers: every member is taken modulo 256 -/
theorem C15_nonce_bytes_of_numbers (ns : List Nat) :
    nonceBytes (ns.map (fun n => WJson.num (.pos n))) = some (ns.map (· % 256)) := by
  simpa [nonceBytes] using nonceBytes_pos_append ns []

/-- **byte-array form**: an array of non-negative JSON integers is read as the nonce whose value is
the big-endian number made of the members taken modulo 256 (`as u8`); `beVal` is the positional
value `Σ bᵢ · 256^(len-1-i)`. The empty array gives `"0"`. -/
theorem C15_nonce_bytes (ns : List Nat) :
    nonceDe (.arr (ns.map (fun n => WJson.num (.pos n)))) = some (Nat.repr (beVal (ns.map (· % 256)))) := by
  simp only [nonceDe, C15_nonce_bytes_of_numbers, Option.map_some, foldl_be_zero]

/-- the code as it is: one trailing member that is not a number (string, boolean, null, array,
object) ends the loop silently and is ignored -/
theorem C15_nonce_bytes_trailing_junk (ns : List Nat) (x : WJson) (hx : ∀ k, x ≠ .num k) :
    nonceDe (.arr (ns.map (fun n => WJson.num (.pos n)) ++ [x])) =
      some (Nat.repr (beVal (ns.map (· % 256)))) := by
  have : nonceBytes [x] = some [] := by
    cases x with
    | num k => exact absurd rfl (hx k)
    | _ => rfl
  simp only [nonceDe, nonceBytes_pos_append, this, Option.map_some, List.append_nil, foldl_be_zero]

/-- **rejected nonces**: the empty string; a string with a character that is not an ASCII digit
(sign, space, letter, non-ASCII digit); a negative integer; a float; a boolean, `null`, an object;
an array with a negative or fractional member. -/
theorem C15_nonce_rejects :
    nonceDe (.str "") = none ∧
    (∀ s : String, (∃ c ∈ s.toList, c.isDigit = false) → nonceDe (.str s) = none) ∧
    (∀ n, nonceDe (.num (.neg n)) = none) ∧
    nonceDe (.num .float) = none ∧
    (∀ b, nonceDe (.bool b) = none) ∧
    nonceDe .null = none ∧
    nonceDe .obj = none ∧
    (∀ (ns : List Nat) (k : Num) (rest : List WJson), (∀ n, k ≠ .pos n) →
      nonceDe (.arr (ns.map (fun n => WJson.num (.pos n)) ++ .num k :: rest)) = none) := by
  refine ⟨by decide, fun s ⟨c, hc, hcd⟩ => ?_, fun _ => rfl, rfl, fun _ => rfl, rfl, rfl, fun ns k rest hk => ?_⟩
  · exact Option.eq_none_iff_forall_ne_some.mpr fun t h =>
      Bool.false_ne_true (hcd ▸ ((C15_nonce_string_iff s t).mp h).2.2 c hc)
  · have : nonceBytes (.num k :: rest) = none := by
      cases k with
      | pos n => exact absurd rfl (hk n)
      | _ => rfl
    simp only [nonceDe, nonceBytes_pos_append, this, Option.map_none]

private def bitJson (b : Bool) : WJson := .num (.pos (if b then 1 else 0))

private def bitDe (x : WJson) : Option Bool :=
  match x with
  | .num (.pos 0) => some false
  | .num (.pos 1) => some true
  | _ => none

private theorem revListDe_arr (xs : List WJson) : revListDe (.arr xs) = xs.mapM bitDe := rfl

private theorem bitDe_eq_some_iff {x : WJson} {b : Bool} : bitDe x = some b ↔ x = bitJson b := by
  constructor
  · unfold bitDe; split <;> rintro ⟨⟩ <;> rfl
  · rintro rfl; cases b <;> rfl

private theorem bitDe_isSome_iff {x : WJson} :
    (bitDe x).isSome = true ↔ x = .num (.pos 0) ∨ x = .num (.pos 1) := by
  simp only [Option.isSome_iff_exists, bitDe_eq_some_iff, Bool.exists_bool, bitJson]; rfl

/-- **deserialise ∘ serialise = id**: a bit vector written as `[0,1,…]` reads back as itself. -/
theorem C15_revlist_de_ser (bits : List Bool) : revListDe (revListSer bits) = some bits :=
  List.mapM_map_of_inverse (f := bitDe) (g := bitJson) bits fun _ _ => bitDe_eq_some_iff.mpr rfl

/-- **serialise ∘ deserialise = id**: a document that reads as `bits` is written back as the very
same document. -/
theorem C15_revlist_ser_de {j : WJson} {bits : List Bool} (h : revListDe j = some bits) :
    revListSer bits = j := by
  cases j with
  | arr xs =>
    exact congrArg WJson.arr
      (List.map_of_mapM_inverse (f := bitDe) (g := bitJson) (fun _ _ h => (bitDe_eq_some_iff.mp h).symm) h)
  | _ => cases h

/-- both directions in one statement: a document reads as `bits` iff it is the document written
for `bits`. -/
theorem C15_revlist_de_iff (j : WJson) (bits : List Bool) :
    revListDe j = some bits ↔ j = revListSer bits :=
  ⟨fun h => (C15_revlist_ser_de h).symm, fun h => h ▸ C15_revlist_de_ser bits⟩

/-- **exact shape of the accepted documents**: arrays all of whose members are the JSON integer
`0` or the JSON integer `1`. -/
theorem C15_revlist_accepts_iff (j : WJson) :
    (revListDe j).isSome = true ↔
      ∃ xs, j = .arr xs ∧ ∀ x ∈ xs, x = .num (.pos 0) ∨ x = .num (.pos 1) := by
  cases j with
  | arr xs => simp [revListDe_arr, List.mapM_isSome_iff, bitDe_isSome_iff]
  | _ => simp [revListDe]

/-- **anything else is rejected**: an array with a member other than the integers `0` and `1`
(`2`, `-1`, `1.0`, `true`, `"1"`, …), and every non-array. -/
theorem C15_revlist_rejects_other_numbers :
    (∀ (xs : List WJson) (x : WJson), x ∈ xs → x ≠ .num (.pos 0) → x ≠ .num (.pos 1) →
      revListDe (.arr xs) = none) ∧
    revListDe .null = none ∧ (∀ b, revListDe (.bool b) = none) ∧ (∀ k, revListDe (.num k) = none) ∧
    (∀ s, revListDe (.str s) = none) ∧ revListDe .obj = none := by
  refine ⟨fun xs x hx h0 h1 => ?_, rfl, fun _ => rfl, fun _ => rfl, fun _ => rfl, rfl⟩
  refine Option.not_isSome_iff_eq_none.mp fun h => ?_
  obtain ⟨_, ⟨⟩, hall⟩ := (C15_revlist_accepts_iff _).mp h
  exact (hall x hx).elim h0 h1

/-- **deserialise ∘ serialise = id** -/
theorem C15_ver_roundtrip (v : Ver) : verDe (some (verSer v)) = some v := by
  cases v <;> decide

/-- a request without `ver` (or with `"ver": null`) is a version-1 request -/
theorem C15_missing_ver_is_v1 : verDe none = some .v1 ∧ verDe (some .null) = some .v1 := ⟨rfl, rfl⟩

/-- **serialise ∘ deserialise = id on documents that have the member**: a `ver` string that was
accepted is written back verbatim. (A request *without* `ver` is written back *with*
`"ver":"1.0"`: the document changes, its meaning — `C15_ver_stable` — does not.) -/
theorem C15_ver_ser_de {s : String} {v : Ver} (h : verDe (some (.str s)) = some v) :
    verSer v = .str s := by
  simp only [verDe] at h
  split at h
  · cases h; subst_vars; rfl
  · split at h
    · cases h; subst_vars; rfl
    · cases h

/-- whatever was read (member absent, `null`, `"1.0"`, `"2.0"`), writing and reading again gives the
same version -/
theorem C15_ver_stable {j : Option WJson} {v : Ver} (_ : verDe j = some v) :
    verDe (some (verSer v)) = some v := C15_ver_roundtrip v

/-- **unknown versions are rejected**: every string other than `"1.0"` and `"2.0"` (including
`"1"`, `"1.00"`, `" 1.0"`, `"3.0"`), and every number, boolean, array or object. -/
theorem C15_ver_rejects_unknown :
    (∀ s : String, s ≠ "1.0" → s ≠ "2.0" → verDe (some (.str s)) = none) ∧
    (∀ k, verDe (some (.num k)) = none) ∧ (∀ b, verDe (some (.bool b)) = none) ∧
    (∀ xs, verDe (some (.arr xs)) = none) ∧ verDe (some .obj) = none := by
  refine ⟨?_, fun _ => rfl, fun _ => rfl, fun _ => rfl, rfl⟩
  intro s h1 h2
  simp [verDe, h1, h2]

/-- **deserialise ∘ serialise = id** for strings, booleans and numbers in the `i32` range (the
Rust type is `Number(i32)`, so the range hypothesis is the type's invariant; the example below
shows that the model needs it). -/
theorem C15_attrval_de_ser (v : AttrVal)
    (hr : ∀ n, v = .num n → Encode.i32Min ≤ n ∧ n ≤ Encode.i32Max) :
    attrValDe (attrValSer v) = some v := by
  cases v with
  | str s => rfl
  | bool b => rfl
  | num n =>
    obtain ⟨hlo, hhi⟩ := hr n rfl
    unfold attrValSer
    by_cases hn : n < 0
    · simp [hn, attrValDe, hlo]
    · have e : ((n.toNat : Nat) : Int) = n := Int.toNat_of_nonneg (by omega)
      simp [hn, attrValDe, e, hhi]

/-- **serialise ∘ deserialise = id**: a document that was accepted as an attribute value is written
back as the very same document. `WfNum j` is the `serde_json` number invariant (a `NegInt` is
negative); the example below shows that the model needs it. -/
theorem C15_attrval_ser_de {j : WJson} {v : AttrVal} (hwf : WfNum j) (h : attrValDe j = some v) :
    attrValSer v = j := by
  rcases (attrValDe_eq_some_iff j v).mp h with
    ⟨s, rfl, rfl⟩ | ⟨b, rfl, rfl⟩ | ⟨n, rfl, _, rfl⟩ | ⟨n, rfl, _, rfl⟩
  · rfl
  · rfl
  · simp [attrValSer]
  · simp [attrValSer, (hwf _ rfl).2]

/-- which documents are attribute values: every string, every boolean, and the integers of the
`i32` range (in either number representation) -/
theorem C15_attrval_accepts_iff (j : WJson) :
    (attrValDe j).isSome = true ↔
      (∃ s, j = .str s) ∨ (∃ b, j = .bool b) ∨
      (∃ n : Nat, j = .num (.pos n) ∧ (n : Int) ≤ Encode.i32Max) ∨
      (∃ n : Int, j = .num (.neg n) ∧ Encode.i32Min ≤ n) := by
  simp only [Option.isSome_iff_exists, attrValDe_eq_some_iff, exists_or, exists_and_left,
    exists_comm (α := AttrVal), exists_eq, and_true]

/-- **rejected attribute values**: floats, integers outside the `i32` range, `null`, arrays,
objects. -/
theorem C15_attrval_rejects :
    attrValDe (.num .float) = none ∧
    (∀ n : Nat, Encode.i32Max < (n : Int) → attrValDe (.num (.pos n)) = none) ∧
    (∀ n : Int, n < Encode.i32Min → attrValDe (.num (.neg n)) = none) ∧
    attrValDe .null = none ∧ (∀ xs, attrValDe (.arr xs) = none) ∧ attrValDe .obj = none :=
  ⟨rfl, fun _ h => if_neg (Int.not_le.mpr h), fun _ h => if_neg (Int.not_le.mpr h), rfl, fun _ => rfl, rfl⟩

example : nonceDe (.str "007") = some "007" := by decide +kernel
example : nonceDe (.str "0") = some "0" := by decide +kernel
-- 34 digits, beyond `u128`; on a literal of this length the theorem is quicker than evaluating `nonceDe`
example : nonceDe (.str "1000000000000000000000000000000000") = some "1000000000000000000000000000000000" :=
  C15_nonce_string_kept (by decide +kernel) (by rw [String.toList_ofList]; decide +kernel)
example : nonceDe (.num (.pos 42)) = some "42" := by decide +kernel
example : nonceDe (.arr [.num (.pos 1), .num (.pos 2)]) = some "258" := by decide +kernel
example : nonceDe (.arr [.num (.pos 257), .num (.pos 0)]) = some "256" := by decide +kernel   -- `as u8` truncates
example : nonceDe (.arr []) = some "0" := by decide +kernel
example : nonceDe (.arr [.num (.pos 1), .str "x"]) = some "1" := by decide +kernel            -- trailing junk tolerated
example : nonceDe (.arr [.str "x", .num (.pos 1)]) = none := by decide +kernel                -- not in the middle
example : nonceDe (.arr [.num (.neg (-1))]) = none := by decide +kernel
example : nonceDe (.arr [.num .float]) = none := by decide +kernel
example : nonceDe (.str "") = none := by decide +kernel
example : nonceDe (.str "-5") = none := by decide +kernel
example : nonceDe (.str "+5") = none := by decide +kernel
example : nonceDe (.str " 5") = none := by decide +kernel
example : nonceDe (.str "١٢") = none := by decide +kernel
example : nonceDe (.str "12a") = none := by decide +kernel
example : beVal [1, 2] = 258 := by decide +kernel
example : nonceDe (.str "007") = some "007" ∧ nonceDe (.num (.pos 7)) = some "7" ∧
    nonceDe (.arr [.num (.pos 7)]) = some "7" := by decide +kernel

example : revListDe (revListSer [true, false, true]) = some [true, false, true] := by decide +kernel
example : revListDe (.arr [.num (.pos 1), .num (.pos 0)]) = some [true, false] := by decide +kernel
example : revListDe (.arr []) = some [] := by decide +kernel
example : revListDe (.arr [.num (.pos 2)]) = none := by decide +kernel
example : revListDe (.arr [.num (.neg (-1))]) = none := by decide +kernel
example : revListDe (.arr [.num .float]) = none := by decide +kernel
example : revListDe (.arr [.bool true]) = none := by decide +kernel
example : revListDe (.arr [.str "1"]) = none := by decide +kernel

example : verDe (some (.str "1.0")) = some .v1 := by decide +kernel
example : verDe (some (.str "2.0")) = some .v2 := by decide +kernel
example : verDe (some (.str "3.0")) = none := by decide +kernel
example : verDe (some (.str "1")) = none := by decide +kernel
example : verDe (some (.num (.pos 1))) = none := by decide +kernel

example : attrValDe (.num (.pos 2147483647)) = some (.num 2147483647) := by decide +kernel
example : attrValDe (.num (.pos 2147483648)) = none := by decide +kernel
example : attrValDe (.num (.neg (-2147483648))) = some (.num (-2147483648)) := by decide +kernel
example : attrValDe (.num (.neg (-2147483649))) = none := by decide +kernel
example : attrValDe (attrValSer (.num (-5))) = some (.num (-5)) := by decide +kernel
example : attrValDe (attrValSer (.str "5")) = some (.str "5") := by decide +kernel
-- the range hypothesis of `C15_attrval_de_ser` is needed …
example : attrValDe (attrValSer (.num 2147483648)) = none := by decide +kernel
example : attrValDe (attrValSer (.num (-2147483649))) = none := by decide +kernel
-- … and so is `WfNum` in `C15_attrval_ser_de`: `.neg 5` is not a `serde_json` number, and the
-- model reads it as 5 and writes `.pos 5`
example : attrValDe (.num (.neg 5)) = some (.num 5) ∧ attrValSer (.num 5) = .num (.pos 5) :=
  ⟨by decide +kernel, rfl⟩
example : ¬ WfNum (.num (.neg 5)) := fun h => absurd (h _ rfl).2 (by decide +kernel)
example : WfNum (.num (.neg (-5))) := by
  intro k hk; cases hk; exact ⟨by decide +kernel, by decide +kernel⟩
example : WfNum (.str "x") := by intro k hk; cases hk

end AnonModel.Wire
