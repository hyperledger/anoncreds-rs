import AnonModel.Gen.Consts
/-! # C19: the tails-file version tag the model was written for is the one in `/repo` -/
namespace AnonModel.GenConsts
open AnonModel.Gen

/-- C19: two-byte version tag `[0, 2]` -/
theorem C19_version_tag_unchanged : tailsBlobTagSz = 2 ∧ tailsVersionTag = [0, 2] := by decide

end AnonModel.GenConsts
