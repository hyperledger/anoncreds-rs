import AnonModel.Lemmas.VerifierLegacy
/-!
# C01 (legacy format) — a verified presentation proves exactly the requested predicates and attributes

Soundness direction for the model `Verifier.verifyLegacy` of `services/verifier.rs:
verify_presentation` on top of the ideal CL functionality. All theorems are of the form
"`verifyLegacy ctx r p = .ok true` ⇒ …" (or the contrapositive).

Vocabulary. `SubSound ctx p i s` (in `Lemmas/VerifierLegacy.lean`): sub-proof `s` at index `i` is
intact, made from a credential signed by the key of the credential definition the verifier supplied
for identifier `i`, over exactly the supplied schema's (normalised) attribute names, and everything
it reveals (`s.revealed`) or proves (`s.preds`) is true of the signed values `s.cred.attrs`.
For a requested attribute four ways of being served are distinguished (`C01_Revealed`,
`C01_RevealedGroup`, `C01_Held`, `C01_SelfAttested`).

Key uniqueness. The Rust maps are `HashMap`s; the model uses association lists with first-match
lookup. `C01_legacy_predicates` / `C01_legacy_attributes` quantify over *entries* of the request maps
and therefore need `(keys r.preds).Nodup` / `(keys r.attrs).Nodup` (otherwise a shadowed second entry
for the same referent is never looked at). The `_lookup` versions quantify over lookup results and
need no such hypothesis. No uniqueness hypothesis on the presentation's maps is needed: the
statements speak of `lookup` there, and `check_unique_attr_referents` (`uniqueReferents`) is part of
what acceptance establishes.
-/
namespace AnonModel.Verifier
open AnonModel.IdealCL

/-- **requested predicates (by lookup)**: for every requested predicate `q` under referent `ref` an
accepted presentation names a sub-proof index `i`; the sub-proof at `i` carries a predicate with the
requested (normalised) attribute name, type and threshold; and that sub-proof is sound, so the
predicate holds of the value signed by the issuer key of the supplied definition -/
theorem C01_legacy_predicates_lookup {ctx : Ctx} {r : Request} {p : Presentation}
    (h : verifyLegacy ctx r p = .ok true) {ref : String} {q : PredInfo}
    (hq : r.preds.lookup ref = some q) :
    ∃ i s, p.predicates.lookup ref = some i ∧ p.subs[i]? = some s ∧
      (∃ pr ∈ s.preds, Names.commonView pr.attr = Names.commonView q.name ∧ pr.ty = q.ty ∧
        pr.value = q.value) ∧
      SubSound ctx p i s := by
  have ok := verifyLegacy_ok_true_iff.mp h
  have hk : ref ∈ keys p.predicates :=
    (((compareAttrs_iff r p).mp ok.compare).2 ref).mp (List.mem_keys_of_lookup hq)
  obtain ⟨i, hi⟩ := List.lookup_of_mem_keys hk
  obtain ⟨q', s, hq', hs, hpr⟩ := predicatesOk_iff.mp ok.predicates _ (List.mem_of_lookup hi)
  rw [hq] at hq'; cases hq'
  exact ⟨i, s, hi, hs, hpr, subSound_of_ok h i s hs⟩

/-- **requested predicates**: the same for every entry of `requested_predicates` (unique referents) -/
theorem C01_legacy_predicates {ctx : Ctx} {r : Request} {p : Presentation}
    (h : verifyLegacy ctx r p = .ok true) (hnd : (keys r.preds).Nodup) :
    ∀ kv ∈ r.preds, ∃ i s, p.predicates.lookup kv.1 = some i ∧ p.subs[i]? = some s ∧
      (∃ pr ∈ s.preds, Names.commonView pr.attr = Names.commonView kv.2.name ∧ pr.ty = kv.2.ty ∧
        pr.value = kv.2.value) ∧
      SubSound ctx p i s := by
  rintro ⟨ref, q⟩ hm
  exact C01_legacy_predicates_lookup h (List.lookup_of_mem_nodup hnd hm)

/-- the proven predicate is true of the signed value: spelled out from `SubSound` -/
theorem C01_legacy_predicate_holds {ctx : Ctx} {r : Request} {p : Presentation}
    (h : verifyLegacy ctx r p = .ok true) {ref : String} {q : PredInfo}
    (hq : r.preds.lookup ref = some q) :
    ∃ i s attr, p.predicates.lookup ref = some i ∧ p.subs[i]? = some s ∧
      Names.commonView attr = Names.commonView q.name ∧
      predHolds s.cred.attrs ⟨attr, q.ty, q.value⟩ = true := by
  obtain ⟨i, s, hi, hs, ⟨pr, hpr, h1, h2, h3⟩, hss⟩ := C01_legacy_predicates_lookup h hq
  exact ⟨i, s, pr.attr, hi, hs, h1, h2 ▸ h3 ▸ hss.preds_hold pr hpr⟩

/-- the requested attribute is revealed: a single `name`, served by sub-proof `info.idx`, which
reveals an attribute of the same normal-form name with value the normalised `encoded` -/
def C01_Revealed (ctx : Ctx) (p : Presentation) (ref : String) (a : AttrInfo) : Prop :=
  ∃ info n s, p.revealed.lookup ref = some info ∧ a.name = some n ∧
    p.subs[info.idx]? = some s ∧
    (∃ kv ∈ s.revealed, Names.commonView kv.1 = Names.commonView n ∧
      Encode.normalizeEnc info.encoded = kv.2) ∧
    SubSound ctx p info.idx s

/-- the requested attribute group (`names`) is revealed from one sub-proof, every requested name
with the normalised `encoded` value the sub-proof reveals -/
def C01_RevealedGroup (ctx : Ctx) (p : Presentation) (ref : String) (a : AttrInfo) : Prop :=
  ∃ g names s, p.groups.lookup ref = some g ∧ a.names = some names ∧ p.subs[g.idx]? = some s ∧
    (∀ n ∈ names, ∃ re kv, g.values.lookup n = some re ∧ kv ∈ s.revealed ∧
      Names.commonView kv.1 = Names.commonView n ∧ Encode.normalizeEnc re.2 = kv.2) ∧
    SubSound ctx p g.idx s

/-- the requested attribute is held but not revealed: the schema supplied for the credential the
referent points to has every requested name, and the sub-proof at that index is sound -/
def C01_Held (ctx : Ctx) (p : Presentation) (ref : String) (a : AttrInfo) : Prop :=
  ∃ i id sc s, p.unrevealed.lookup ref = some i ∧ p.identifiers[i]? = some id ∧
    ctx.schemas.lookup id.schemaId = some sc ∧
    (∀ n ∈ a.allNames, Names.hasNorm sc.attrNames n = true) ∧
    p.subs[i]? = some s ∧ SubSound ctx p i s

/-- the requested attribute is self-attested only — possible only if it is unrestricted
(`restrictions` absent, `$and: []` or `$or: []`) -/
def C01_SelfAttested (p : Presentation) (ref : String) (a : AttrInfo) : Prop :=
  ref ∈ keys p.selfAttested ∧ ref ∉ keys p.revealed ++ keys p.groups ++ keys p.unrevealed ∧
    Query.isSelfAttested a.restrictions true = true

/-- **requested attributes (by lookup)**: every requested attribute is served in one of the four
ways by an accepted presentation -/
theorem C01_legacy_attributes_lookup {ctx : Ctx} {r : Request} {p : Presentation}
    (h : verifyLegacy ctx r p = .ok true) {ref : String} {a : AttrInfo}
    (ha : r.attrs.lookup ref = some a) :
    C01_Revealed ctx p ref a ∨ C01_RevealedGroup ctx p ref a ∨ C01_Held ctx p ref a ∨
      C01_SelfAttested p ref a := by
  have ok := verifyLegacy_ok_true_iff.mp h
  have hk := (((compareAttrs_iff r p).mp ok.compare).1 ref).mp (List.mem_keys_of_lookup ha)
  by_cases h3 : ref ∈ keys p.revealed ++ keys p.groups ++ keys p.unrevealed
  · simp only [List.mem_append] at h3
    rcases h3 with (h1 | h2) | h3
    · obtain ⟨info, hi⟩ := List.lookup_of_mem_keys h1
      obtain ⟨a', n, s, ha', hn, hs, hv⟩ :=
        (revealedValuesOk_iff.mp ok.revealed).1 _ (List.mem_of_lookup hi)
      rw [ha] at ha'; cases ha'
      exact Or.inl ⟨info, n, s, hi, hn, hs, revealedValueOk_elim hv, subSound_of_ok h _ s hs⟩
    · obtain ⟨g, hg⟩ := List.lookup_of_mem_keys h2
      obtain ⟨a', names, s, ha', hn, hs, -, hv⟩ :=
        (revealedValuesOk_iff.mp ok.revealed).2 _ (List.mem_of_lookup hg)
      rw [ha] at ha'; cases ha'
      refine Or.inr (Or.inl ⟨g, names, s, hg, hn, hs, fun n hn' => ?_, subSound_of_ok h _ s hs⟩)
      obtain ⟨re, hre, hok⟩ := hv n hn'
      obtain ⟨kv, hkv, h1, h2⟩ := revealedValueOk_elim hok
      exact ⟨re, kv, hre, hkv, h1, h2⟩
    · obtain ⟨i, hi⟩ := List.lookup_of_mem_keys h3
      obtain ⟨a', id, sc, ha', hid, hsc, hn⟩ :=
        unrevealedOk_iff.mp ok.unrevealed _ (List.mem_of_lookup hi)
      rw [ha] at ha'; cases ha'
      obtain ⟨s, hs, hss⟩ := ok_sub_exists h hid
      exact Or.inr (Or.inr (Or.inl ⟨i, id, sc, s, hi, hid, hsc, hn, hs, hss⟩))
  · have hself : ref ∈ keys p.selfAttested := (List.mem_append.mp hk).resolve_left h3
    refine Or.inr (Or.inr (Or.inr ⟨hself, h3, ?_⟩))
    have hcl := ((restrictionsOk_iff ctx r p).mp ok.restrictions).2.1 _ (List.mem_of_lookup ha)
    rcases attrClause_elim hcl with hsa | hnone | ⟨q, -, hok⟩
    · rwa [List.contains_iff_mem.mpr hself] at hsa
    · rw [hnone]; rfl
    · obtain ⟨i, -, -, hi, -⟩ := attrRestrictionOk_elim hok
      exact absurd (attrIdentifierIdx_mem hi) h3

/-- **requested attributes**: the same for every entry of `requested_attributes` (unique referents) -/
theorem C01_legacy_attributes {ctx : Ctx} {r : Request} {p : Presentation}
    (h : verifyLegacy ctx r p = .ok true) (hnd : (keys r.attrs).Nodup) :
    ∀ kv ∈ r.attrs, C01_Revealed ctx p kv.1 kv.2 ∨ C01_RevealedGroup ctx p kv.1 kv.2 ∨
      C01_Held ctx p kv.1 kv.2 ∨ C01_SelfAttested p kv.1 kv.2 := by
  rintro ⟨ref, a⟩ hm
  exact C01_legacy_attributes_lookup h (List.lookup_of_mem_nodup hnd hm)

/-- **nothing extra**: conversely every referent of the presentation's five maps is a requested one
(attribute referents for the four attribute maps, predicate referents for `predicates`) -/
theorem C01_legacy_only_requested {ctx : Ctx} {r : Request} {p : Presentation}
    (h : verifyLegacy ctx r p = .ok true) :
    (∀ ref, ref ∈ keys p.revealed ++ keys p.groups ++ keys p.unrevealed ++ keys p.selfAttested →
      ref ∈ keys r.attrs) ∧
    (∀ ref, ref ∈ keys p.predicates → ref ∈ keys r.preds) := by
  obtain ⟨h1, h2⟩ := (compareAttrs_iff r p).mp (verifyLegacy_ok_true_iff.mp h).compare
  exact ⟨fun ref => (h1 ref).mpr, fun ref => (h2 ref).mpr⟩

/-! ### a presentation made for another request is rejected -/

/-- **cross-request, wrong predicate**: if the sub-proof the presentation maps a requested predicate
referent to carries no predicate with the requested (normalised name, type, threshold) — e.g. the
presentation was made for a request with a weaker threshold — it is not accepted -/
theorem C01_legacy_cross_request {ctx : Ctx} {r : Request} {p : Presentation}
    {ref : String} {q : PredInfo} (hq : r.preds.lookup ref = some q)
    (hno : ∀ i s, p.predicates.lookup ref = some i → p.subs[i]? = some s →
      ∀ pr ∈ s.preds, ¬ (Names.commonView pr.attr = Names.commonView q.name ∧ pr.ty = q.ty ∧
        pr.value = q.value)) :
    verifyLegacy ctx r p ≠ .ok true := by
  intro h
  obtain ⟨i, s, hi, hs, ⟨pr, hpr, hh⟩, -⟩ := C01_legacy_predicates_lookup h hq
  exact hno i s hi hs pr hpr hh

/-- **cross-request, missing predicate referent**: a requested predicate the presentation has no
entry for ⇒ not accepted -/
theorem C01_legacy_cross_request_missing_pred {ctx : Ctx} {r : Request} {p : Presentation}
    {ref : String} (hreq : ref ∈ keys r.preds) (hmiss : ref ∉ keys p.predicates) :
    verifyLegacy ctx r p ≠ .ok true := by
  intro h
  obtain ⟨q, hq⟩ := List.lookup_of_mem_keys hreq
  obtain ⟨i, s, hi, -⟩ := C01_legacy_predicates_lookup h hq
  exact hmiss (List.mem_keys_of_lookup hi)

/-- **cross-request, missing attribute referent**: a requested attribute that occurs in none of the
four attribute maps of the presentation ⇒ not accepted -/
theorem C01_legacy_cross_request_missing_attr {ctx : Ctx} {r : Request} {p : Presentation}
    {ref : String} (hreq : ref ∈ keys r.attrs)
    (hmiss : ref ∉ keys p.revealed ++ keys p.groups ++ keys p.unrevealed ++ keys p.selfAttested) :
    verifyLegacy ctx r p ≠ .ok true := by
  intro h
  exact hmiss ((((compareAttrs_iff r p).mp (verifyLegacy_ok_true_iff.mp h).compare).1 ref).mp hreq)

/-- **cross-request, extra referent**: a presentation carrying a predicate or attribute referent the
request does not have ⇒ not accepted -/
theorem C01_legacy_cross_request_extra {ctx : Ctx} {r : Request} {p : Presentation}
    {ref : String}
    (hextra : (ref ∈ keys p.predicates ∧ ref ∉ keys r.preds) ∨
      (ref ∈ keys p.revealed ++ keys p.groups ++ keys p.unrevealed ++ keys p.selfAttested ∧
        ref ∉ keys r.attrs)) :
    verifyLegacy ctx r p ≠ .ok true := by
  intro h
  obtain ⟨h1, h2⟩ := C01_legacy_only_requested h
  rcases hextra with ⟨ha, hb⟩ | ⟨ha, hb⟩
  · exact hb (h2 ref ha)
  · exact hb (h1 ref ha)

section Examples
open Honest

example : verifyLegacy ctx req pres = .ok true := Honest.accepted
example : (keys req.attrs).Nodup ∧ (keys req.preds).Nodup := by decide +kernel
example : (req.attrs.lookup "a1").isSome = true ∧ (pres.revealed.lookup "a1").isSome = true := by
  decide +kernel
example : pres.unrevealed.lookup "a2" = some 0 ∧ pres.predicates.lookup "p1" = some 0 := by decide +kernel
-- a proof of `age ≥ 18` presented for a request of `age ≥ 60` is rejected (F1 of DESIGN §7 was its acceptance)
example : verifyLegacy ctx
    { req with preds := [("p1", { name := "age", ty := "GE", value := 60, restrictions := none,
                                  nonRevoked := none })] } pres = .err := by decide +kernel
example : verifyLegacy ctx
    { req with preds := [("p1", { name := "age", ty := "GT", value := 18, restrictions := none,
                                  nonRevoked := none })] } pres = .err := by decide +kernel
example : verifyLegacy ctx
    { req with preds := [("p1", { name := "id", ty := "GE", value := 18, restrictions := none,
                                  nonRevoked := none })] } pres = .err := by decide +kernel
example : verifyLegacy ctx req { pres with predicates := [] } = .err := by decide +kernel
example : verifyLegacy ctx { req with preds := [] } pres = .err := by decide +kernel
example : verifyLegacy ctx
    { req with preds := [("p1", { name := " A g e", ty := "GE", value := 18, restrictions := none,
                                  nonRevoked := none })] } pres = .ok true := by decide +kernel
-- a self-attested value is accepted for an unrestricted attribute only
example : verifyLegacy ctx req
    { pres with unrevealed := [], selfAttested := [("a2", "x")] } = .ok true := by decide +kernel
example : verifyLegacy ctx req
    { pres with revealed := [], selfAttested := [("a1", "x")] } = .err := Honest.self_attested_restricted
-- an unrevealed referent pointing to a credential whose schema lacks the attribute is an error (F2 of DESIGN §7
-- was its acceptance)
example : verifyLegacy ctx
    { req with attrs := req.attrs.take 1 ++
        [("a2", ({ name := some "zip", names := none, restrictions := none, nonRevoked := none } :
                  AttrInfo))] }
    pres = .err := by decide +kernel
end Examples

end AnonModel.Verifier
