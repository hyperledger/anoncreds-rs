import AnonModel.Lemmas.Query
/-!
# C06 (evaluation core) — restrictions hold with Boolean WQL semantics

Statement (evaluation part): "`$and`/`$or`/`$not`/`$in`/`$neq` having their Boolean
meaning over equality tests on schema id, name, version and issuer, credential-definition
id, issuer (legacy `*_did` tags matching only legacy identifiers) and values of attributes
revealed under the referent. Comparison, `$like` and `$exist` operators and unknown tags are
never satisfied."

`eval ld vals f q` is `process_operator(vals, q, f).is_ok()`; `ld` stands for
`LEGACY_DID_IDENTIFIER.captures(_).is_some()` and every theorem holds for every `ld`.
`Sat` below is a semantics written independently of the code (a recursive `Prop`:
negation makes an inductive definition non-positive); `LeafSat`, `IsInternalTag`,
`IsMarkerShaped` are in `Lemmas/Query.lean`. Which credential / which revealed values are
handed to the evaluation (`f`, `vals`) is the business of the verifier model, not of this file.
-/
namespace AnonModel.Query
open AnonModel.Json

section
variable (ld : String → Bool) (vals : List (String × Option String)) (f : Filter)

mutual
/-- Boolean meaning of a restriction for one credential: `and` = all, `or` = some,
`not` = negation, `in` = some value, `neq` = negated leaf, `eq` = leaf; every other
operator is unsatisfiable. -/
def Sat : Query → Prop
  | .and l => SatAll l
  | .or l => SatAny l
  | .not q => ¬ Sat q
  | .eq k v => LeafSat ld vals f k v
  | .neq k v => ¬ LeafSat ld vals f k v
  | .isIn k vs => ∃ v ∈ vs, LeafSat ld vals f k v
  | .gt _ _ => False
  | .gte _ _ => False
  | .lt _ _ => False
  | .lte _ _ => False
  | .like _ _ => False
  | .exist _ => False
def SatAll : List Query → Prop
  | [] => True
  | q :: r => Sat q ∧ SatAll r
def SatAny : List Query → Prop
  | [] => False
  | q :: r => Sat q ∨ SatAny r
end

/-- `Sat` of a conjunction, in closed form -/
theorem C06_sat_and (l : List Query) : Sat ld vals f (.and l) ↔ ∀ q ∈ l, Sat ld vals f q := by
  simp only [Sat]
  induction l with
  | nil => simp [SatAll]
  | cons q r ih => simp [SatAll, ih]

/-- `Sat` of a disjunction, in closed form -/
theorem C06_sat_or (l : List Query) : Sat ld vals f (.or l) ↔ ∃ q ∈ l, Sat ld vals f q := by
  simp only [Sat]
  induction l with
  | nil => simp [SatAny]
  | cons q r ih => simp [SatAny, ih]

/-- **`INTERNAL_TAG_MATCHER`**: the capture of `^attr::([^:]+)::(value|marker)$` on `tag`
is `n` iff `tag` is `attr::n::value` or `attr::n::marker` with `n` non-empty and free of `:` -/
theorem C06_internal_tag_regex (tag n : String) :
    internalTagName tag = some n ↔ IsInternalTag tag n := by
  have hs : ∀ s : String, tag = "attr::" ++ n ++ s ↔
      tag.toList = "attr::".toList ++ (n.toList ++ s.toList) := fun s => by
    rw [← String.toList_inj, String.toList_append, String.toList_append, List.append_assoc]
  rw [IsInternalTag, hs, hs, ne_eq, ← String.toList_eq_nil_iff]
  constructor
  · intro h
    unfold internalTagName at h
    split at h
    · cases h
    · rename_i rest hrest
      obtain ⟨⟨hne, ht⟩, e⟩ := Option.ite_none_right_eq_some.mp h
      cases e
      simp only [String.toList_ofList]
      have htag := (stripPrefix_eq_some_iff ..).mp hrest
      rw [← List.takeWhile_append_dropWhile (p := (· != ':')) (l := rest)] at htag
      exact ⟨hne, fun hm => by simpa using List.all_eq_true.mp List.all_takeWhile _ hm,
        ht.imp (fun e => by rwa [e] at htag) (fun e => by rwa [e] at htag)⟩
  · rintro ⟨hne, hcol, htag⟩
    -- the two endings as one `':' :: t`
    obtain ⟨t, ht, htag⟩ : ∃ t, (':' :: t = "::value".toList ∨ ':' :: t = "::marker".toList) ∧
        tag.toList = "attr::".toList ++ (n.toList ++ ':' :: t) :=
      htag.elim (fun h => ⟨_, .inl rfl, h⟩) (fun h => ⟨_, .inr rfl, h⟩)
    obtain ⟨h1, h2⟩ := List.takeWhile_dropWhile_append_cons hcol t
    rw [internalTagName, (stripPrefix_eq_some_iff ..).mpr htag]
    simp only [h1, h2]
    rw [if_pos ⟨hne, ht⟩, String.ofList_toList]

private theorem leafSat_nonmeta {tag value : String} (hm : tag ∉ metaTags) :
    LeafSat ld vals f tag value ↔
      (∃ n, IsInternalTag tag n ∧ (vals.lookup n = some none ∨ vals.lookup n = some (some value))) ∨
      (IsMarkerShaped tag ∧ ¬ ∃ n, IsInternalTag tag n ∧ hasKey vals n = true) := by
  simp only [metaTags, List.mem_cons, List.not_mem_nil, or_false, not_or] at hm
  simp only [LeafSat, hm, false_and, false_or]

/-- **leaf = spec**: `process_filter` succeeds exactly when the declarative leaf holds -/
theorem C06_leaf_spec (tag value : String) :
    processFilter ld vals f tag value = true ↔ LeafSat ld vals f tag value := by
  by_cases hm : tag ∈ metaTags
  · obtain ⟨h9, h10⟩ := not_attr_of_meta hm
    simp only [metaTags, List.mem_cons, List.not_mem_nil, or_false] at hm
    rcases hm with rfl | rfl | rfl | rfl | rfl | rfl | rfl | rfl <;>
      simp [processFilter, processField, LeafSat, h9, h10]
  · rw [leafSat_nonmeta ld vals f hm]
    simp only [metaTags, List.mem_cons, List.not_mem_nil, or_false, not_or] at hm
    -- `IsInternalTag tag` is the graph of `internalTagName tag`
    simp only [processFilter, hm, if_false, or_self, ← C06_internal_tag_regex]
    unfold isAttrInternalTag checkInternalTagRevealedValue
    cases internalTagName tag with
    | none => simp [isAttrOperator_iff]
    | some n =>
      have hk := hasKey_iff_lookup vals n
      simp only [Option.some.injEq, exists_eq_left']
      cases hl : vals.lookup n with
      | none => simp_all [isAttrOperator_iff]
      | some v => cases v <;> simp_all

/-- **metadata tags** compare by string equality with the corresponding field of the
credential's filter; the two legacy `*_did` tags additionally require the *credential's*
issuer (not the value in the restriction) to be a legacy identifier -/
theorem C06_leaf_metadata (v : String) :
    processFilter ld vals f "schema_id" v = decide (f.schemaId = v) ∧
    processFilter ld vals f "schema_issuer_id" v = decide (f.schemaIssuerId = v) ∧
    processFilter ld vals f "schema_issuer_did" v = (ld f.schemaIssuerId && decide (f.schemaIssuerId = v)) ∧
    processFilter ld vals f "schema_name" v = decide (f.schemaName = v) ∧
    processFilter ld vals f "schema_version" v = decide (f.schemaVersion = v) ∧
    processFilter ld vals f "cred_def_id" v = decide (f.credDefId = v) ∧
    processFilter ld vals f "issuer_id" v = decide (f.issuerId = v) ∧
    processFilter ld vals f "issuer_did" v = (ld f.issuerId && decide (f.issuerId = v)) := by
  refine ⟨?_, ?_, ?_, ?_, ?_, ?_, ?_, ?_⟩ <;> simp [processFilter, processField]

/-- **attribute tags** `attr::n::value` and `attr::n::marker` with `n` among the names
known for the referent: satisfied iff `n` is unrevealed or its revealed raw value equals
the value in the restriction (for `…::marker` too — the marker value is compared) -/
theorem C06_leaf_attr_known {tag n : String} (value : String) (h : IsInternalTag tag n)
    (hk : hasKey vals n = true) :
    processFilter ld vals f tag value = true ↔
      vals.lookup n = some none ∨ vals.lookup n = some (some value) := by
  rw [C06_leaf_spec, leafSat_nonmeta ld vals f fun hm => (not_attr_of_meta hm).1 n h]
  -- `IsInternalTag tag` is the graph of `internalTagName tag`: the name is `n` and no other
  simp only [← C06_internal_tag_regex] at h ⊢
  simp [h, hk]

/-- **other markers**: a tag starting with `attr::` and ending with `::marker` which is
not an attribute tag of a known name is satisfied whatever the value and the credential
(the verifier does not check that the credential has the attribute) -/
theorem C06_leaf_marker_other {tag : String} (value : String) (hm : IsMarkerShaped tag)
    (hno : ¬ ∃ n, IsInternalTag tag n ∧ hasKey vals n = true) :
    processFilter ld vals f tag value = true := by
  rw [C06_leaf_spec, leafSat_nonmeta ld vals f fun h => (not_attr_of_meta h).2 hm]
  exact Or.inr ⟨hm, hno⟩

/-- **anything else is never satisfied**: unknown tags, `attr::n::value` for a name not
known for the referent, malformed attribute tags -/
theorem C06_leaf_unknown_false {tag : String} (value : String) (h1 : tag ∉ metaTags)
    (h2 : ¬ ∃ n, IsInternalTag tag n ∧ hasKey vals n = true) (h3 : ¬ IsMarkerShaped tag) :
    processFilter ld vals f tag value = false := by
  cases hp : processFilter ld vals f tag value with
  | false => rfl
  | true =>
    rw [C06_leaf_spec, leafSat_nonmeta ld vals f h1] at hp
    rcases hp with ⟨n, h, hl⟩ | ⟨hm, _⟩
    · exfalso; apply h2
      refine ⟨n, h, (hasKey_iff_lookup vals n).mpr ?_⟩
      rcases hl with hl | hl <;> exact ⟨_, hl⟩
    · exact absurd hm h3

/-- a legacy `*_did` tag never matches a credential whose issuer is not a legacy
identifier, not even on the issuer's own identifier -/
theorem C06_legacy_tag_only_legacy (v : String) :
    (ld f.issuerId = false → eval ld vals f (.eq "issuer_did" v) = false) ∧
    (ld f.schemaIssuerId = false → eval ld vals f (.eq "schema_issuer_did" v) = false) := by
  constructor <;> intro h <;> simp [eval, processFilter, processField, h]

/-- **evaluation = Boolean semantics** -/
theorem C06_eval_iff_sat (q : Query) : eval ld vals f q = true ↔ Sat ld vals f q := by
  induction q using Query.induct with
  | and l ih =>
    simp only [eval, evalAll_eq, List.all_eq_true, C06_sat_and]
    exact forall₂_congr ih
  | or l ih =>
    simp only [eval, evalAny_eq, List.any_eq_true, C06_sat_or]
    exact exists_congr fun q => and_congr_right (ih q)
  | not q ih => simp only [eval, Sat, Bool.not_eq_true', ← ih, Bool.not_eq_true]
  | eq k v => simp only [eval, Sat, C06_leaf_spec]
  | neq k v => simp only [eval, Sat, Bool.not_eq_true', ← C06_leaf_spec, Bool.not_eq_true]
  | isIn k vs => simp only [eval, Sat, List.any_eq_true, C06_leaf_spec]
  | _ => simp [eval, Sat]

/-- **comparison, `$like` and `$exist` are never satisfied** -/
theorem C06_unsupported_false (k v : String) (ks : List String) :
    eval ld vals f (.gt k v) = false ∧ eval ld vals f (.gte k v) = false ∧
    eval ld vals f (.lt k v) = false ∧ eval ld vals f (.lte k v) = false ∧
    eval ld vals f (.like k v) = false ∧ eval ld vals f (.exist ks) = false :=
  ⟨rfl, rfl, rfl, rfl, rfl, rfl⟩

/-- … as leaves. Under a negation they are therefore *always* satisfied: "not (age > 18)"
holds for every credential -/
theorem C06_not_unsupported_true (k v : String) (ks : List String) :
    eval ld vals f (.not (.gt k v)) = true ∧ eval ld vals f (.not (.like k v)) = true ∧
    eval ld vals f (.not (.exist ks)) = true :=
  ⟨rfl, rfl, rfl⟩

/-- `$neq` is the negation of the equality leaf (so it is satisfied on unknown tags) -/
theorem C06_neq_is_not_eq (k v : String) :
    eval ld vals f (.neq k v) = !eval ld vals f (.eq k v) := rfl

/-- `$neq` and `$not` of `$eq` are interchangeable -/
theorem C06_neq_eq_not (k v : String) :
    eval ld vals f (.neq k v) = eval ld vals f (.not (.eq k v)) := rfl

/-- `$in` is the disjunction of the equalities (`$in []` is unsatisfiable) -/
theorem C06_in_is_or_eq (k : String) (vs : List String) :
    eval ld vals f (.isIn k vs) = eval ld vals f (.or (vs.map (Query.eq k))) := by
  simp only [eval, evalAny_eq, List.any_map]
  rfl

/-- `$and` is satisfied iff every member is (`collect::<Result<Vec<_>>>`) -/
theorem C06_and_is_all (l : List Query) :
    eval ld vals f (.and l) = l.all (eval ld vals f) := by simp only [eval, evalAll_eq]

/-- `$or` is satisfied iff some member is -/
theorem C06_or_is_any (l : List Query) :
    eval ld vals f (.or l) = l.any (eval ld vals f) := by simp only [eval, evalAny_eq]

/-- `$not` is satisfied iff its operand is not -/
theorem C06_not_is_not (q : Query) : eval ld vals f (.not q) = !eval ld vals f q := rfl

/-- double negation -/
theorem C06_not_involutive (q : Query) : eval ld vals f (.not (.not q)) = eval ld vals f q := by
  simp [eval]

/-- De Morgan: not-all = some-not -/
theorem C06_not_and (l : List Query) :
    eval ld vals f (.not (.and l)) = eval ld vals f (.or (l.map Query.not)) := by
  simp only [eval, evalAll_eq, evalAny_eq, List.any_map, List.not_all_eq_any_not]
  rfl

/-- De Morgan: not-some = all-not -/
theorem C06_not_or (l : List Query) :
    eval ld vals f (.not (.or l)) = eval ld vals f (.and (l.map Query.not)) := by
  simp only [eval, evalAll_eq, evalAny_eq, List.all_map, List.not_any_eq_all_not]
  rfl

/-- the neutral elements: `And([])` is satisfied, `Or([])` is not; one-element lists unwrap -/
theorem C06_units (q : Query) :
    eval ld vals f (.and []) = true ∧ eval ld vals f (.or []) = false ∧
    eval ld vals f (.and [q]) = eval ld vals f q ∧ eval ld vals f (.or [q]) = eval ld vals f q := by
  simp [eval, evalAll, evalAny]

end

/-- stands in for the legacy-DID pattern in the examples: only its answer on the two issuer ids below matters -/
private def sampleLegacy (s : String) : Bool := decide (s.toList.length = 22)
private def cred : Filter :=
  { schemaId := "did:ex:1/schema/gvt/1.0", schemaIssuerId := "did:ex:1", schemaName := "gvt",
    schemaVersion := "1.0", issuerId := "NcYxiDXkpYi6ov5FcYDi1e", credDefId := "NcYxiDXkpYi6ov5FcYDi1e:3:CL:1:tag" }
private def revealed : List (String × Option String) := [("name", some "Alex"), ("age", none)]

example : internalTagName "attr::name::value" = some "name" := by decide +kernel
example : internalTagName "attr::name::marker" = some "name" := by decide +kernel
example : internalTagName "attr::na:me::value" = none := by decide +kernel
example : internalTagName "attr::::value" = none := by decide +kernel
example : internalTagName "attr::name::value\n" = none := by decide +kernel
example : internalTagName "attr::na\nme::value" = some "na\nme" := by decide +kernel
example : IsInternalTag "attr::name::value" "name" := (C06_internal_tag_regex _ _).mp (by decide +kernel)
example : IsMarkerShaped "attr::marker" := (isAttrOperator_iff _).mp (by decide +kernel)
example : IsMarkerShaped "attr:::marker" := (isAttrOperator_iff _).mp (by decide +kernel)
example : ¬ IsMarkerShaped "attr:marker" := fun h => absurd ((isAttrOperator_iff _).mpr h) (by decide +kernel)

example : eval sampleLegacy revealed cred (.and [.eq "schema_name" "gvt", .eq "attr::name::value" "Alex"]) = true := by decide +kernel
example : eval sampleLegacy revealed cred (.eq "attr::name::value" "Bob") = false := by decide +kernel
example : eval sampleLegacy revealed cred (.eq "attr::age::value" "whatever") = true := by decide +kernel
example : eval sampleLegacy revealed cred (.eq "attr::height::value" "1") = false := by decide +kernel
example : eval sampleLegacy revealed cred (.eq "attr::height::marker" "1") = true := by decide +kernel
example : eval sampleLegacy revealed cred (.eq "attr::name::marker" "1") = false := by decide +kernel
example : eval sampleLegacy revealed cred (.eq "issuer_did" "NcYxiDXkpYi6ov5FcYDi1e") = true := by decide +kernel
example : eval sampleLegacy revealed cred (.eq "schema_issuer_did" "did:ex:1") = false := by decide +kernel
example : eval sampleLegacy revealed cred (.eq "schema_issuer_id" "did:ex:1") = true := by decide +kernel
example : eval sampleLegacy revealed cred (.isIn "cred_def_id" ["x", "NcYxiDXkpYi6ov5FcYDi1e:3:CL:1:tag"]) = true := by decide +kernel
example : eval sampleLegacy revealed cred (.isIn "cred_def_id" []) = false := by decide +kernel
example : eval sampleLegacy revealed cred (.neq "no_such_tag" "x") = true := by decide +kernel
example : eval sampleLegacy revealed cred (.eq "no_such_tag" "x") = false := by decide +kernel
example : eval sampleLegacy revealed cred (.or [.gt "attr::age::value" "18", .exist ["name"]]) = false := by decide +kernel
example : eval sampleLegacy revealed cred (.not (.or [.eq "schema_name" "other", .eq "schema_version" "2.0"])) = true := by decide +kernel
example : Sat sampleLegacy revealed cred (.and [.eq "schema_name" "gvt", .neq "schema_version" "2.0"]) :=
  (C06_eval_iff_sat _ _ _ _).mp (by decide +kernel)
example : ¬ Sat sampleLegacy revealed cred (.eq "schema_name" "other") :=
  fun h => absurd ((C06_eval_iff_sat _ _ _ _).mpr h) (by decide +kernel)

end AnonModel.Query
