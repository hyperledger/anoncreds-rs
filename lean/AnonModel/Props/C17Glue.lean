import AnonModel.Model.FfiGlue
import AnonModel.Lemmas.Assoc
import AnonModel.Lemmas.MapM
/-!
# C17 — the marshalling glue loses nothing and does not depend on the order of the flat lists

`buildOverride` / `presentCredentials` are `src/ffi/presentation.rs: _nonrevoke_interval_override / _present_credentials`
(see `Model/FfiGlue.lean`). The C ABI flows of `tools/ffi_check.py` exercise exactly these statements on the real symbols: override
tables with several rows per registry in every position, and every permutation of a two-credential prove list.
-/
namespace AnonModel.FfiGlue

theorem lookup_insert {β : Type} (m : List (String × β)) (k k' : String) (v : β) :
    (insert m k v).lookup k' = if k' = k then some v else m.lookup k' :=
  List.lookup_cons_filter_key_ne m k k' v

theorem lookup_insertN {β : Type} (m : List (Nat × β)) (k k' : Nat) (v : β) :
    (insertN m k v).lookup k' = if k' = k then some v else m.lookup k' :=
  List.lookup_cons_filter_key_ne m k k' v

theorem lookup2_addRow (m : List (String × List (Nat × Nat))) (r : Row) (id : String) (req : Nat) :
    lookup2 (addRow m r) id req =
      if (r.id == id && r.requested == req) = true then some r.override else lookup2 m id req := by
  unfold lookup2 addRow
  rw [lookup_insert]
  by_cases hid : id = r.id
  · subst hid
    by_cases hr : req = r.requested
    · simp [lookup_insertN, hr]
    · cases hm : m.lookup r.id <;> simp [lookup_insertN, hr, Ne.symm hr]
  · simp [hid, Ne.symm hid]

theorem lookup2_foldl (rows : List Row) (m : List (String × List (Nat × Nat))) (id : String) (req : Nat) :
    lookup2 (rows.foldl addRow m) id req =
      match lastRow rows id req with
      | some v => some v
      | none => lookup2 m id req := by
  induction rows generalizing m with
  | nil => simp [lastRow]
  | cons r rows ih =>
    simp only [List.foldl]
    rw [ih (addRow m r)]
    unfold lastRow
    simp only [List.reverse_cons, List.find?_append]
    cases hf : List.find? (fun r => r.id == id && r.requested == req) rows.reverse with
    | some x => simp
    | none =>
      simp only [Option.map_none, Option.none_or, List.find?]
      rw [lookup2_addRow]
      cases hp : (r.id == id && r.requested == req) <;> simp

/-- **every query is answered by the last row of the table with that registry and that requested bound** — in particular
rows for the same registry do not displace each other -/
theorem C17_override_lookup (rows : List Row) (id : String) (req : Nat) :
    lookup2 (buildOverride rows) id req = lastRow rows id req := by
  unfold buildOverride
  rw [lookup2_foldl]
  cases lastRow rows id req <;> simp [lookup2]

/-- **no row is lost**: whatever else the table holds, a row's own (registry, requested bound) is answered -/
theorem C17_override_row_findable (rows : List Row) (r : Row) (h : r ∈ rows) :
    (lookup2 (buildOverride rows) r.id r.requested).isSome = true := by
  rw [C17_override_lookup]
  unfold lastRow
  rw [Option.isSome_map]
  apply List.find?_isSome.mpr
  exact ⟨r, by simpa using h, by simp⟩

/-- keys `(registry, requested bound)` of a table -/
def keys (rows : List Row) : List (String × Nat) := rows.map (fun r => (r.id, r.requested))

/-- **with pairwise distinct keys the answer is the row itself, so the order of the rows does not matter** -/
theorem C17_override_distinct (rows : List Row) (hd : (keys rows).Nodup) (r : Row) (h : r ∈ rows) :
    lookup2 (buildOverride rows) r.id r.requested = some r.override := by
  rw [C17_override_lookup]
  unfold lastRow
  have hfind : ∀ x, rows.reverse.find? (fun q => q.id == r.id && q.requested == r.requested) = some x → x = r := by
    intro x hx
    have hxm : x ∈ rows := by simpa using List.mem_of_find?_eq_some hx
    have hxp := List.find?_some hx
    simp only [Bool.and_eq_true, beq_iff_eq] at hxp
    -- same key, both members, keys distinct
    have hk : (x.id, x.requested) = (r.id, r.requested) := by rw [hxp.1, hxp.2]
    rw [keys, ← List.filterMap_eq_map] at hd
    exact List.eq_of_nodup_filterMap hd hxm h rfl (congrArg some hk.symm)
  cases hf : rows.reverse.find? (fun q => q.id == r.id && q.requested == r.requested) with
  | none =>
    have := List.find?_eq_none.mp hf r (by simpa using h)
    simp at this
  | some x => simp [hfind x hf]

/-- with distinct keys, the override map built from the rows in any order answers a row's lookup alike (`HashMap` insertion order) -/
theorem C17_override_order_irrelevant (rows rows' : List Row) (hp : rows.Perm rows') (hd : (keys rows).Nodup)
    (r : Row) (h : r ∈ rows) :
    lookup2 (buildOverride rows') r.id r.requested = lookup2 (buildOverride rows) r.id r.requested := by
  have hd' : (keys rows').Nodup := (List.Perm.nodup_iff (List.Perm.map _ hp)).mp hd
  rw [C17_override_distinct rows hd r h, C17_override_distinct rows' hd' r (hp.mem_iff.mp h)]

/-- what one item of the prove list adds to the selection of the entry it names -/
def addItem (s : Selection) (p : Prove) : Selection :=
  if p.isPredicate then { s with preds := if s.preds.contains p.referent then s.preds else p.referent :: s.preds }
  else { s with attrs := insert s.attrs p.referent p.reveal }

theorem selectFor_eq (i : Nat) (l : List Prove) (s : Selection) :
    selectFor i l s = if l.any (fun p => decide (p.entryIdx < 0)) then none
      else some ((l.filter (fun p => p.entryIdx == (i : Int))).foldl addItem s) := by
  induction l generalizing s with
  | nil => rfl
  | cons p rest ih =>
    unfold selectFor
    by_cases hneg : p.entryIdx < 0
    · simp [hneg]
    · by_cases hidx : p.entryIdx = (i : Int)
      · have hi : ¬ (i : Int) < 0 := hidx ▸ hneg
        by_cases hpred : p.isPredicate = true <;> simp [hi, hidx, hpred, ih, addItem]
      · simp [hneg, hidx, ih]

theorem selectFor_none_iff (i : Nat) (l : List Prove) (s : Selection) :
    selectFor i l s = none ↔ ∃ p ∈ l, p.entryIdx < 0 := by
  simp [selectFor_eq]

theorem mem_preds_foldl (items : List Prove) (s : Selection) (x : String) :
    x ∈ (items.foldl addItem s).preds ↔ x ∈ s.preds ∨ ∃ p ∈ items, p.isPredicate = true ∧ p.referent = x := by
  induction items generalizing s with
  | nil => simp
  | cons p rest ih =>
    rw [List.foldl_cons, ih]
    have key : x ∈ (addItem s p).preds ↔ x ∈ s.preds ∨ p.isPredicate = true ∧ p.referent = x := by
      by_cases hpred : p.isPredicate = true
      · by_cases hc : p.referent ∈ s.preds
        · simp only [addItem, hpred, if_true, List.contains_iff_mem, hc, true_and]
          exact ⟨.inl, fun h => h.elim id (· ▸ hc)⟩
        · simp [addItem, hpred, hc, or_comm, eq_comm]
      · simp [addItem, hpred]
    simp [key, or_assoc]

theorem lookup_attrs_foldl (items : List Prove) (s : Selection) (x : String) :
    ((items.foldl addItem s).attrs.lookup x).isSome = true ↔
      (s.attrs.lookup x).isSome = true ∨ ∃ p ∈ items, p.isPredicate = false ∧ p.referent = x := by
  induction items generalizing s with
  | nil => simp
  | cons p rest ih =>
    rw [List.foldl_cons, ih]
    by_cases hpred : p.isPredicate = true
    · simp [addItem, hpred]
    · by_cases hx : x = p.referent
      · simp [addItem, hpred, lookup_insert, hx]
      · simp [addItem, hpred, lookup_insert, hx, Ne.symm hx]

theorem mem_preds_selectFor (i : Nat) (l : List Prove) (s s' : Selection) (h : selectFor i l s = some s') (x : String) :
    x ∈ s'.preds ↔ x ∈ s.preds ∨ askedPred l i x = true := by
  rw [selectFor_eq] at h
  split at h
  · cases h
  · cases h; rw [mem_preds_foldl]; exact or_congr Iff.rfl (by simp [askedPred, and_assoc])

theorem mem_attrs_selectFor (i : Nat) (l : List Prove) (s s' : Selection) (h : selectFor i l s = some s') (x : String) :
    (s'.attrs.lookup x).isSome = true ↔ (s.attrs.lookup x).isSome = true ∨ askedAttr l i x = true := by
  rw [selectFor_eq] at h
  split at h
  · cases h
  · cases h; rw [lookup_attrs_foldl]; exact or_congr Iff.rfl (by simp [askedAttr, and_assoc])

/-- **what entry `i` is told to prove depends only on WHICH items name it, not on where they stand in the list**: for two lists
with the same members (no negative index), entry `i` gets the same predicate referents and the same attribute referents -/
theorem C17_prove_list_order_irrelevant (i : Nat) (l l' : List Prove) (hp : l.Perm l') (s s' : Selection)
    (h : selectFor i l ⟨[], []⟩ = some s) (h' : selectFor i l' ⟨[], []⟩ = some s') (x : String) :
    (x ∈ s.preds ↔ x ∈ s'.preds) ∧ ((s.attrs.lookup x).isSome = (s'.attrs.lookup x).isSome) := by
  have hany : ∀ f : Prove → Bool, l.any f = l'.any f := fun f => hp.any_eq
  constructor
  · rw [mem_preds_selectFor i l _ s h, mem_preds_selectFor i l' _ s' h', askedPred, askedPred, hany]
  · rw [Bool.eq_iff_iff, mem_attrs_selectFor i l _ s h, mem_attrs_selectFor i l' _ s' h', askedAttr, askedAttr, hany]

/-- the whole call fails iff some item carries a negative index (and there is at least one entry to serve) -/
theorem C17_present_fails_iff (n : Nat) (proves : List Prove) (hn : 0 < n) :
    presentCredentials n proves = none ↔ ∃ p ∈ proves, p.entryIdx < 0 := by
  simp only [presentCredentials, List.mapM_eq_none_iff, selectFor_none_iff, List.mem_range]
  exact ⟨fun ⟨_, _, h⟩ => h, fun h => ⟨0, hn, h⟩⟩

example : lookup2 (buildOverride [⟨"r", 20, 10⟩, ⟨"r", 30, 10⟩]) "r" 20 = some 10 := by decide +kernel
example : lookup2 (buildOverride [⟨"r", 20, 10⟩, ⟨"r", 30, 10⟩]) "r" 30 = some 10 := by decide +kernel
example : lookup2 (buildOverride [⟨"r", 20, 10⟩, ⟨"r", 20, 12⟩]) "r" 20 = some 12 := by decide +kernel
example : (presentCredentials 2 [⟨0, "a1", false, true⟩, ⟨1, "a2", false, true⟩, ⟨0, "p1", true, false⟩]).map (·.map (·.preds)) = some [["p1"], []] := by decide +kernel
example : presentCredentials 2 [⟨0, "a1", false, true⟩, ⟨-1, "a2", false, true⟩] = none := by decide +kernel

end AnonModel.FfiGlue
