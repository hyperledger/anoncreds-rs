import AnonModel.Lemmas.VerifierW3C
/-!
# C05 (W3C form) — an accepted W3C presentation is bound to the request nonce, to one link
secret, to the credential definitions that signed its credentials and to an unaltered proof

Property theorems only (helpers: `Lemmas/VerifierW3C.lean`). The CL crate is replaced by the ideal
functionality `IdealCL` (DESIGN §4): `agg.nonce` is the nonce hashed into the aggregated proof,
`intact` flags say whether a number of a (sub-)proof was altered, `sub.ms` is the link-secret
response of a sub-proof (equal iff same link secret and same proof session), `sub.cred.key` is the
key pair that signed the credential a sub-proof was built from, `agg.bound` lists the sub-proofs
hashed into the aggregated proof.

`CLProofVerifier::new` registers `master_secret` as common attribute (/repo fix commit 54e0161; F9 of
DESIGN §7 was this registration missing; the model calls `IdealCL.verify … true`), so link-secret
equality is checked for every pair of sub-proofs.
-/
namespace AnonModel.VerifierW3C
open AnonModel.Verifier AnonModel.IdealCL

/-- **binding**: if the W3C verifier returns `Ok(true)` then the aggregated proof was made for the
request's nonce and is unaltered; every credential is sound (`CredSound`: unaltered sub-proof built
from a credential signed by the key of the definition the verifier supplied for the credential's
`cred_def_id`, over exactly the attributes of the supplied schema, revealing signed values and
proving true predicates, naming the definition's issuer); all sub-proofs carry the same link-secret
response; and the aggregated proof binds exactly the presented sub-proofs, in order. -/
theorem C05_w3c {ctx : Ctx} {r : Request} {p : Presentation} (h : verifyW3C ctx r p = .ok true) :
    p.agg.nonce = r.nonce ∧ p.agg.intact = true ∧
    (∀ c ∈ p.creds, CredSound ctx c) ∧
    (∀ c d, c ∈ p.creds → d ∈ p.creds → c.sub.ms = d.sub.ms) ∧
    p.agg.bound.map Prod.fst = p.creds.map (·.sub.uid) := by
  obtain ⟨hn, hi, hms, hb⟩ := verdict_ok_true (verifyW3C_eq ctx r p ▸ h)
  exact ⟨hn, hi, fun c hc => credSound_of_ok h hc, fun c d hc hd =>
    hms c.sub (List.mem_map_of_mem hc) d.sub (List.mem_map_of_mem hd), by rw [hb, List.map_map]; rfl⟩

/-- a presentation made for another nonce is not accepted (replay under a second request) -/
theorem C05_w3c_other_nonce_rejected {ctx : Ctx} {r : Request} {p : Presentation}
    (hn : p.agg.nonce ≠ r.nonce) : verifyW3C ctx r p ≠ .ok true :=
  fun h => hn (C05_w3c h).1

/-- credentials of two link secrets (or of two proof sessions) cannot be combined: two sub-proofs
with different link-secret responses ⇒ not accepted -/
theorem C05_w3c_two_link_secrets_rejected {ctx : Ctx} {r : Request} {p : Presentation}
    {c d : Cred} (hc : c ∈ p.creds) (hd : d ∈ p.creds) (hne : c.sub.ms ≠ d.sub.ms) :
    verifyW3C ctx r p ≠ .ok true :=
  fun h => hne ((C05_w3c h).2.2.2.1 c d hc hd)

/-- any altered number in a sub-proof ⇒ not accepted -/
theorem C05_w3c_altered_subproof_rejected {ctx : Ctx} {r : Request} {p : Presentation}
    {c : Cred} (hc : c ∈ p.creds) (halt : c.sub.intact = false) :
    verifyW3C ctx r p ≠ .ok true :=
  fun h => Bool.false_ne_true (halt.symm.trans ((C05_w3c h).2.2.1 c hc).intact)

/-- any altered number in the aggregated proof ⇒ not accepted -/
theorem C05_w3c_altered_aggregate_rejected {ctx : Ctx} {r : Request} {p : Presentation}
    (halt : p.agg.intact = false) : verifyW3C ctx r p ≠ .ok true :=
  fun h => Bool.false_ne_true (halt.symm.trans (C05_w3c h).2.1)

/-- another credential definition under the same id: if the definition the verifier supplies for
the credential's `cred_def_id` carries a key other than the one that signed the credential ⇒ not
accepted -/
theorem C05_w3c_wrong_definition_rejected {ctx : Ctx} {r : Request} {p : Presentation}
    {c : Cred} {cd : CredDefInfo} (hc : c ∈ p.creds)
    (hcd : ctx.credDefs.lookup c.credDefId = some cd) (hkey : c.sub.cred.key ≠ cd.key) :
    verifyW3C ctx r p ≠ .ok true :=
  fun h => hkey (((C05_w3c h).2.2.1 c hc).key hcd)

/-- a sub-proof that is not the one hashed into the aggregated proof at its position (added,
dropped, swapped or replaced sub-proof) ⇒ not accepted -/
theorem C05_w3c_unbound_subproof_rejected {ctx : Ctx} {r : Request} {p : Presentation}
    (hb : p.agg.bound.map Prod.fst ≠ p.creds.map (·.sub.uid)) :
    verifyW3C ctx r p ≠ .ok true :=
  fun h => hb (C05_w3c h).2.2.2.2

set_option maxRecDepth 100000 in
example : verifyW3C Demo.ctx Demo.req Demo.pres = .ok true := Demo.accepted

example : verifyW3C Demo.ctx { Demo.req with nonce := "2" } Demo.pres ≠ .ok true :=
  C05_w3c_other_nonce_rejected (by decide +kernel)

example :
    verifyW3C Demo.ctx Demo.req
      { Demo.pres with creds := [Demo.cred, { Demo.cred with sub := { Demo.sub with ms := (8, 1) } }] }
      ≠ .ok true :=
  C05_w3c_two_link_secrets_rejected (c := Demo.cred)
    (d := { Demo.cred with sub := { Demo.sub with ms := (8, 1) } }) (by simp) (by simp) (by decide +kernel)

example :
    verifyW3C Demo.ctx Demo.req
      { Demo.pres with creds := [{ Demo.cred with sub := { Demo.sub with intact := false } }] }
      ≠ .ok true :=
  C05_w3c_altered_subproof_rejected (c := { Demo.cred with sub := { Demo.sub with intact := false } })
    (by simp) rfl

example :
    verifyW3C { Demo.ctx with credDefs := [("cd", { issuerId := "I", key := 2, revocable := false })] }
      Demo.req Demo.pres ≠ .ok true :=
  C05_w3c_wrong_definition_rejected (c := Demo.cred)
    (cd := { issuerId := "I", key := 2, revocable := false }) (by simp [Demo.pres]) (by rfl) (by decide +kernel)

end AnonModel.VerifierW3C
