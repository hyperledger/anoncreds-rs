import AnonModel.Lemmas.VerifierW3C
import AnonModel.Props.C01W3C
import AnonModel.Props.C03W3C
/-!
# C06 (W3C form) — restrictions hold for a credential that actually serves the requested item,
and are evaluated on authenticated values

Property theorems only. What `Query.eval` means (Boolean semantics of `$and/$or/$not/$in/$neq`,
which tags exist, legacy `*_did` tags) is `Props/C06Eval.lean`; this file states **for which
credential and which values** the W3C verifier evaluates a restriction:
`check_credential_restrictions` builds the filter from the schema and the credential definition
the verifier supplied for the ids of the *same* credential that reveals / holds the attribute or
proves the predicate, and the value map from that credential's subject.

Differences from the legacy verifier (remarks, nothing to prove here):
* the W3C format has **no self-attested attributes**: every requested name, restricted or not, must
  be served by a credential (`C01_w3c_attributes`), so "a restricted referent cannot be met by
  self-attestation" holds trivially;
* the W3C verifier has **no tag-mixing check** (`issuer_id` together with `issuer_did` in one
  request is rejected by the legacy verifier only); each restriction is evaluated as it is;
* the value map holds **every** string/number of the serving credential's subject (not only the
  values revealed under the referent), and all of them are authenticated
  (`C06_w3c_values_authenticated`) — the legacy finding F15 (value restrictions evaluated on the
  unauthenticated `raw`) has no W3C counterpart.
-/
namespace AnonModel.VerifierW3C
open AnonModel.Verifier AnonModel.IdealCL AnonModel
open AnonModel.Query (Query Filter)

/-- the filter `gather_filter_info` builds for a sound credential describes that credential: its
schema id and definition id, the name / version / issuer of the schema the verifier supplied for
that id, and the issuer of the supplied definition — which is the issuer the credential names -/
theorem C06_w3c_filter {ctx : Ctx} {c : Cred} {rr : Option String} {ts : Option Nat} {f : Filter}
    (hf : gatherFilter ctx ⟨c.schemaId, c.credDefId, rr, ts⟩ = some f) (hs : CredSound ctx c) :
    f.schemaId = c.schemaId ∧ f.credDefId = c.credDefId ∧ f.issuerId = c.issuer ∧
    ∃ sc cd, ctx.schemas.lookup c.schemaId = some sc ∧ ctx.credDefs.lookup c.credDefId = some cd ∧
      f.schemaName = sc.name ∧ f.schemaVersion = sc.version ∧ f.schemaIssuerId = sc.issuerId ∧
      f.issuerId = cd.issuerId ∧ c.sub.cred.key = cd.key := by
  obtain ⟨sc, cd, hsc, hcd, h1, h2, h3, h4, h5, h6⟩ := gatherFilter_some hf
  exact ⟨h1, h6, h5.trans (hs.issuer hcd), sc, cd, hsc, hcd, h3, h4, h2, h5, hs.key hcd⟩

/-- **restricted attribute**: if the W3C verifier returns `Ok(true)` and a requested attribute
carries the restriction `q`, then every requested name is revealed from (signed value) or held in
a sound credential of the presentation for whose own filter and subject values `q` evaluates to
true -/
theorem C06_w3c_attr {ctx : Ctx} {r : Request} {p : Presentation}
    (h : verifyW3C ctx r p = .ok true) {ra : String × AttrInfo} (hra : ra ∈ r.attrs) {q : Query}
    (hq : ra.2.restrictions = some q) :
    ∀ n ∈ ra.2.allNames, ∃ c ∈ p.creds, ∃ f,
      gatherFilter ctx ⟨c.schemaId, c.credDefId, c.revRegId, none⟩ = some f ∧
      Query.eval Ident.isLegacyDid (subjectValues c) f q = true ∧
      (Reveals c n ∨ HoldsAttr ctx c n) ∧ CredSound ctx c := by
  intro n hn
  obtain ⟨c, hc, hserve, hcond, hs⟩ := C01_w3c_attribute_served h ra hra n hn
  obtain ⟨f, hf, he⟩ := (conditionsOk_iff.mp hcond).1 q hq
  exact ⟨c, hc, f, hf, he, hserve, hs⟩

/-- **restricted predicate**: likewise, the requested predicate is proven by a sound credential
for whose own filter and subject values the predicate's restriction evaluates to true -/
theorem C06_w3c_pred {ctx : Ctx} {r : Request} {p : Presentation}
    (h : verifyW3C ctx r p = .ok true) {rq : String × PredInfo} (hrq : rq ∈ r.preds) {q : Query}
    (hq : rq.2.restrictions = some q) :
    ∃ c ∈ p.creds, ∃ f,
      gatherFilter ctx ⟨c.schemaId, c.credDefId, c.revRegId, none⟩ = some f ∧
      Query.eval Ident.isLegacyDid (subjectValues c) f q = true ∧
      ProvesPred c rq.2 ∧ CredSound ctx c := by
  obtain ⟨c, hc, hp, hcond, hs⟩ := C01_w3c_predicates h rq hrq
  obtain ⟨f, hf, he⟩ := (conditionsOk_iff.mp hcond).1 q hq
  exact ⟨c, hc, f, hf, he, hp, hs⟩

/-- **authenticated values**: under `Ok(true)` every entry of the value map a restriction is
evaluated on is a *revealed* value (never `None`), and it is the value the issuer signed: the
sub-proof reveals its encoding for that attribute and the signed credential has it -/
theorem C06_w3c_values_authenticated {ctx : Ctx} {r : Request} {p : Presentation}
    (h : verifyW3C ctx r p = .ok true) :
    ∀ c ∈ p.creds, ∀ k ov, (k, ov) ∈ subjectValues c →
      ∃ v, ov = some v ∧
        (∃ kv ∈ c.sub.revealed, Names.commonView kv.1 = Names.commonView k ∧
          kv.2 = Encode.encode v ∧ c.sub.cred.attrs.lookup kv.1 = some kv.2) ∧
        c.sub.cred.attrs.lookup (Names.commonView k) = some (Encode.encode v) := by
  intro c hc k ov hm
  obtain ⟨v, hkv, hnb, rfl⟩ := mem_subjectValues.mp hm
  exact ⟨v.toStr, rfl, (C03_w3c_subject h c hc k v hkv).1 hnb, C03_w3c_subject_signed h hc hkv hnb⟩

/-- **false restriction rejects**: if the restriction of a requested attribute is false for every
credential of the presentation (for its own filter and values), the presentation is not accepted -/
theorem C06_w3c_attr_rejected {ctx : Ctx} {r : Request} {p : Presentation}
    {ra : String × AttrInfo} (hra : ra ∈ r.attrs) {q : Query} (hq : ra.2.restrictions = some q)
    {n : String} (hn : n ∈ ra.2.allNames)
    (hfalse : ∀ c ∈ p.creds, ∀ f,
      gatherFilter ctx ⟨c.schemaId, c.credDefId, c.revRegId, none⟩ = some f →
      Query.eval Ident.isLegacyDid (subjectValues c) f q = false) :
    verifyW3C ctx r p ≠ .ok true := by
  intro h
  obtain ⟨c, hc, f, hf, he, _⟩ := C06_w3c_attr h hra hq n hn
  rw [hfalse c hc f hf] at he; cases he

/-- the same for a requested predicate -/
theorem C06_w3c_pred_rejected {ctx : Ctx} {r : Request} {p : Presentation}
    {rq : String × PredInfo} (hrq : rq ∈ r.preds) {q : Query} (hq : rq.2.restrictions = some q)
    (hfalse : ∀ c ∈ p.creds, ∀ f,
      gatherFilter ctx ⟨c.schemaId, c.credDefId, c.revRegId, none⟩ = some f →
      Query.eval Ident.isLegacyDid (subjectValues c) f q = false) :
    verifyW3C ctx r p ≠ .ok true := by
  intro h
  obtain ⟨c, hc, f, hf, he, _⟩ := C06_w3c_pred h hrq hq
  rw [hfalse c hc f hf] at he; cases he

set_option maxRecDepth 100000 in
example : verifyW3C Demo.ctx Demo.req Demo.pres = .ok true ∧
    (∀ ra ∈ Demo.req.attrs, ra.2.restrictions.isSome) ∧
    (∀ rq ∈ Demo.req.preds, rq.2.restrictions.isSome) := ⟨Demo.accepted, by decide, by decide⟩

example : ("N", some "25") ∈ subjectValues Demo.cred := by decide +kernel

set_option maxRecDepth 100000 in
example :
    verifyW3C Demo.ctx
      { Demo.req with attrs := [("r1", { name := some "n", names := none,
                                          restrictions := some (.eq "cred_def_id" "other"),
                                          nonRevoked := none })] }
      Demo.pres ≠ .ok true := by
  refine C06_w3c_attr_rejected (q := .eq "cred_def_id" "other") (n := "n")
    (List.mem_singleton.mpr rfl) rfl (by simp [AttrInfo.allNames]) ?_
  intro c hc f hf
  have hc' : c = Demo.cred := by simpa [Demo.pres] using hc
  subst hc'
  have : gatherFilter Demo.ctx ⟨Demo.cred.schemaId, Demo.cred.credDefId, Demo.cred.revRegId, none⟩ =
      some ⟨"s", "I", "nm", "1", "I", "cd"⟩ := by rfl
  rw [this] at hf
  simp only [Option.some.injEq] at hf
  subst hf
  decide +kernel

end AnonModel.VerifierW3C
