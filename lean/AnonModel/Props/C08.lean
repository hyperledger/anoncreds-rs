import AnonModel.Lemmas.Interval
/-!
# C08 — non-revocation intervals resolve to a definite acceptance window per credential

The property theorems and the two definitions of their vocabulary (lemmas: `Lemmas/Interval.lean`):
* `C08_demand loc glob id ovr` — what one referent served by a credential of registry `id`
  demands: its own interval if it has one, else the request-wide one, lower bound replaced by
  the verifier's override for that registry and that bound;
* `C08_tight locals glob id ovr` — the tightest combination of the local intervals of a list
  of referents (override applied to their merge), or the overridden request-wide interval
  when none of them has a local one.

Status. Everything about the interval algebra, the override, the W3C per-referent check, and
the legacy check *as a function of the intervals of the revealed-attribute and predicate
referents with a registry id present* is proved in full. Three statements of the property are
**false for the code** and are delivered as `_refuted` (concrete witness) + `_partial`:
* the claim "accept (legacy)" for *all* referents a credential serves (`C08_accept_legacy_refuted`:
  unrevealed ones are not looked at by the verifier, so the request-wide interval is imposed on a
  credential whose only referents carry their own interval);
* the claim "reject (legacy)" for all referents (`C08_reject_legacy_refuted_unrevealed`: a local
  interval on an unrevealed referent is ignored) and, in both formats, for all identifiers
  (`C08_reject_legacy_refuted_no_regid`, `C08_reject_w3c_refuted`: without `rev_reg_id` the intervals and
  the override are ignored);
* the claim "timestamp required", in both formats, for all identifiers
  (`C08_needs_timestamp_legacy_refuted`, `C08_needs_timestamp_w3c_refuted`: same reason).
That the legacy code applies the override *after* merging the locals (so the key is the merged
lower bound) is harmless for acceptance: the merged lower bound is the lower bound of one of the
locals, so the overridden merged bound is that referent's demanded bound
(`C08_accept_legacy_partial` holds for every override map, including maps that raise bounds).
Not in this file: the claim "no status list for the named timestamp ⇒ failure" is a fact about
`CLProofVerifier::add_sub_proof`, outside the interval model (`C02_w3c_needs_list`,
`C02_legacy_timestamp_partial`).
-/
namespace AnonModel.Interval

/-! ### the merge (`compare_and_set`) is a semilattice and validity distributes over it -/

/-- merging two intervals does not depend on which one is `self` -/
theorem C08_merge_comm (a b : Ivl) : merge a b = merge b a := merge_comm a b

/-- merging does not depend on the grouping -/
theorem C08_merge_assoc (a b c : Ivl) : merge (merge a b) c = merge a (merge b c) :=
  merge_assoc a b c

/-- merging an interval with itself changes nothing -/
theorem C08_merge_idem (a : Ivl) : merge a a = a := by
  simp only [merge_eq, Std.IdempotentOp.idempotent (op := Option.merge max),
    Std.IdempotentOp.idempotent (op := Option.merge min)]

/-- a `u64` timestamp passes the merged interval iff it passes both -/
theorem C08_valid_merge (a b : Ivl) (t : Nat) (ht : t < 2 ^ 64) :
    valid (merge a b) t = true ↔ valid a t = true ∧ valid b t = true := by
  rw [valid_merge a b t ht, Bool.and_eq_true]

/-- the fold of `get_requested_attributes` / `get_requested_predicates` yields no interval
iff no referent has a local one -/
theorem C08_fold_none_iff (locals : List (Option Ivl)) :
    foldLocals locals = none ↔ ∀ x ∈ locals, x = none := by
  rw [← Option.not_isSome_iff_eq_none, foldLocals_isSome]
  simp [Option.forall]

/-- a `u64` timestamp passes the folded interval iff it passes every local interval -/
theorem C08_valid_foldMerge (locals : List (Option Ivl)) (t : Nat) (ht : t < 2 ^ 64) :
    validOpt (foldLocals locals) t = true ↔ ∀ l, some l ∈ locals → valid l t = true := by
  induction locals with
  | nil => simp [foldLocals_nil, validOpt]
  | cons x xs ih =>
    rw [foldLocals_cons, validOpt_mergeOpt _ _ _ ht, Bool.and_eq_true, ih]
    cases x <;> simp [validOpt]

/-- **order independence**: the referents are iterated in `HashSet` order; any two orders
give the same interval -/
theorem C08_fold_perm {locals locals' : List (Option Ivl)} (h : locals.Perm locals') :
    foldLocals locals = foldLocals locals' := by
  simp only [foldLocals, mergeOpt_eq]
  refine h.foldl_eq' (fun x _ y _ z => ?_) none
  rw [Std.Associative.assoc (op := Option.merge merge), Std.Commutative.comm (op := Option.merge merge) x,
    ← Std.Associative.assoc (op := Option.merge merge)]

/-- a missing lower bound is `0` and a missing upper bound is `u64::MAX`: every `u64`
timestamp passes an absent bound, and a present bound is an inclusive comparison -/
theorem C08_open_bounds (t : Nat) (ht : t < 2 ^ 64) :
    valid ⟨none, none⟩ t = true ∧
    (∀ u, valid ⟨none, some u⟩ t = decide (t ≤ u)) ∧
    (∀ f, valid ⟨some f, none⟩ t = decide (f ≤ t)) ∧
    (∀ f u, valid ⟨some f, some u⟩ t = decide (f ≤ t ∧ t ≤ u)) := by
  have hmax : t ≤ u64Max := by simp only [u64Max]; omega
  refine ⟨?_, fun u => ?_, fun f => ?_, fun f u => ?_⟩
  · exact (valid_iff ..).mpr ⟨Nat.zero_le t, hmax⟩
  all_goals rw [Bool.eq_iff_iff, valid_iff, decide_eq_true_iff]
  · exact ⟨And.right, fun h => ⟨Nat.zero_le t, h⟩⟩
  · exact ⟨And.left, fun h => ⟨h, hmax⟩⟩
  · exact Iff.rfl

/-- the override never touches the upper bound — of the interval it is applied to, and
hence of what `get_requested_non_revoked_interval` returns -/
theorem C08_override_only_from (id : String) (ovr : Option Overrides) (m : List (Nat × Nat))
    (i : Ivl) (regId : Option String) (loc glob : Option Ivl) :
    (applyOverride m i).hi = i.hi ∧ (overrideFor id ovr i).hi = i.hi ∧
    (requested regId loc glob ovr).map (·.hi) = (requested regId loc glob none).map (·.hi) := by
  refine ⟨by rw [applyOverride_eq], overrideFor_hi id ovr i, ?_⟩
  cases regId with
  | none => rfl
  | some r => simp only [requested_some, Option.map_map, Function.comp_def, overrideFor_hi]

/-- **the override is keyed by registry id and requested lower bound**: the result is the
interval with its lower bound `f` replaced by `v` exactly when an override is given, it has a
map for *this* registry id, and that map has the *requested* lower bound `f` as key (with
value `v`); in every other case the interval is unchanged -/
theorem C08_override_keyed (id : String) (ovr : Option Overrides) (i : Ivl) :
    overrideFor id ovr i =
      match i.lo with
      | none => i
      | some f =>
        match (ovr.bind (fun maps => maps.lookup id)).bind (fun m => m.lookup f) with
        | some v => ⟨some v, i.hi⟩
        | none => i := by
  rw [overrideFor_eq]
  obtain ⟨lo, hi⟩ := i
  cases lo with
  | none => rfl
  | some f =>
    simp only [Option.map_some]
    cases (ovr.bind (fun maps => maps.lookup id)).bind (fun m => m.lookup f) <;> rfl

/-- hit: registry and requested bound are keys ⇒ the lower bound becomes the mapped value -/
theorem C08_override_keyed_hit {id : String} {maps : Overrides} {m : List (Nat × Nat)}
    {i : Ivl} {f v : Nat} (h1 : maps.lookup id = some m) (h2 : i.lo = some f)
    (h3 : m.lookup f = some v) : overrideFor id (some maps) i = ⟨some v, i.hi⟩ := by
  rw [overrideFor_eq, h2]; simp [h1, h3]

/-- miss: no override, no map for this registry, no lower bound, or the requested lower
bound is not a key ⇒ unchanged (a map filed under another registry, or a key equal to some
other number such as the upper bound, has no effect) -/
theorem C08_override_keyed_miss {id : String} {ovr : Option Overrides} {i : Ivl}
    (h : ∀ maps m f, ovr = some maps → maps.lookup id = some m → i.lo = some f →
      m.lookup f = none) : overrideFor id ovr i = i := by
  rw [C08_override_keyed]
  cases hlo : i.lo with
  | none => rfl
  | some f =>
    have : (ovr.bind (fun maps => maps.lookup id)).bind (fun m => m.lookup f) = none :=
      Option.bind_eq_none_iff.mpr fun m hm =>
        let ⟨maps, hovr, hm⟩ := Option.bind_eq_some_iff.mp hm
        h maps m f hovr hm hlo
    simp only [this]

/-- the demand of one referent (with local interval `loc`, possibly absent) served by a
credential whose identifier names registry `id` -/
def C08_demand (loc glob : Option Ivl) (id : String) (ovr : Option Overrides) : Option Ivl :=
  requested (some id) loc glob ovr

/-- the demand is the referent's own interval if it has one, else the request-wide one, then
the override for that registry (see `C08_override_keyed`); no interval at all ⇒ no demand -/
theorem C08_demand_spec (loc glob : Option Ivl) (id : String) (ovr : Option Overrides) :
    (∀ l, loc = some l → C08_demand loc glob id ovr = some (overrideFor id ovr l)) ∧
    (∀ g, loc = none → glob = some g → C08_demand loc glob id ovr = some (overrideFor id ovr g)) ∧
    (loc = none → glob = none → C08_demand loc glob id ovr = none) := by
  refine ⟨?_, ?_, ?_⟩
  · rintro l rfl; rfl
  · rintro g rfl rfl; rfl
  · rintro rfl rfl; rfl

/-- tightest combination: override applied to the merge of the local intervals, or to the
request-wide interval when there is no local one -/
def C08_tight (locals : List (Option Ivl)) (glob : Option Ivl) (id : String)
    (ovr : Option Overrides) : Option Ivl :=
  match foldLocals locals with
  | some i => some (overrideFor id ovr i)
  | none =>
    match glob with
    | some g => some (overrideFor id ovr g)
    | none => none

/-- the tight interval is the demand of one referent carrying the merge of the local intervals -/
theorem C08_tight_eq (locals : List (Option Ivl)) (glob : Option Ivl) (id : String)
    (ovr : Option Overrides) :
    C08_tight locals glob id ovr = C08_demand (foldLocals locals) glob id ovr := by
  unfold C08_tight
  rw [C08_demand, requested_some]
  cases foldLocals locals <;> cases glob <;> rfl

/-- an interval is demanded of a referent iff it has a local one or there is a request-wide one -/
theorem C08_demand_isSome (loc glob : Option Ivl) (id : String) (ovr : Option Overrides) :
    (C08_demand loc glob id ovr).isSome = (loc.isSome || glob.isSome) := by
  rw [C08_demand, requested_some, Option.isSome_map, Option.isSome_or]

/-- "an interval applies": some referent in the list has a local one, or there is a
request-wide one -/
theorem C08_tight_isSome (locals : List (Option Ivl)) (glob : Option Ivl) (id : String)
    (ovr : Option Overrides) :
    (C08_tight locals glob id ovr).isSome = true ↔ (∃ l, some l ∈ locals) ∨ glob.isSome = true := by
  rw [C08_tight_eq, C08_demand_isSome, Bool.or_eq_true, foldLocals_isSome]

/-- meeting every demand implies meeting the tight interval, for a non-empty list of
referents and **any** override map (the merged lower bound is some referent's lower bound,
so its override is that referent's demanded bound: `valid_overrideFor_merge`) -/
theorem C08_demands_imp_tight (locals : List (Option Ivl)) (glob : Option Ivl) (id : String)
    (ovr : Option Overrides) (t : Nat) (hne : locals ≠ [])
    (hdem : ∀ loc ∈ locals, validOpt (C08_demand loc glob id ovr) t = true) :
    validOpt (C08_tight locals glob id ovr) t = true := by
  rw [C08_tight_eq]
  cases hf : foldLocals locals with
  | none =>
    obtain ⟨x, hx⟩ := List.exists_mem_of_ne_nil locals hne
    exact (C08_fold_none_iff locals).mp hf x hx ▸ hdem x hx
  | some T =>
    exact foldLocals_induct (P := fun T => valid (overrideFor id ovr T) t = true)
      (fun _ _ => valid_overrideFor_merge) hf (fun l hl => hdem (some l) hl)

/-! ### legacy format: `check_non_revoked_interval` -/

/-- **exact verdict** of the legacy check for a revocable definition, an identifier with a
registry id and a timestamp: `t` must pass the tight interval of the revealed-attribute and
predicate referents of that credential -/
theorem C08_legacy_exact (attrsL predsL : List (Option Ivl)) (glob : Option Ivl) (id : String)
    (ovr : Option Overrides) (ts : Option Nat) :
    checkLegacy true (foldLocals attrsL) (foldLocals predsL) glob (some id) ovr ts =
      checkTs (C08_tight (attrsL ++ predsL) glob id ovr) ts := by
  rw [C08_tight_eq, foldLocals_append]; rfl

/-
Full statement (property text: "a presentation timestamp that meets the demands of all
those referents is accepted", *those referents* being all the referents the credential
serves — revealed attributes and groups `attrsL`, predicates `predsL`, unrevealed
attributes `unrevL`):

  ∀ attrsL predsL unrevL glob id ovr t, t < 2^64 →
    (∀ loc ∈ attrsL ++ predsL ++ unrevL, validOpt (C08_demand loc glob id ovr) t = true) →
    checkLegacy true (foldLocals attrsL) (foldLocals predsL) glob (some id) ovr (some t) = true

It is false (`C08_accept_legacy_refuted`). What is missing in the partial statement: the
credential must serve at least one revealed-attribute or predicate referent; unrevealed
referents may be present but are not looked at.
-/

/-- **accept (legacy)**: the credential serves at least one revealed-attribute or predicate
referent, and `t` meets the demand of each of them (own interval else request-wide, with
override) ⇒ the check passes. Holds for every override map and every `t` (no width needed). -/
theorem C08_accept_legacy_partial (revocable : Bool) (attrsL predsL : List (Option Ivl))
    (glob : Option Ivl) (id : String) (ovr : Option Overrides) (t : Nat)
    (hne : attrsL ++ predsL ≠ [])
    (hdem : ∀ loc ∈ attrsL ++ predsL, validOpt (C08_demand loc glob id ovr) t = true) :
    checkLegacy revocable (foldLocals attrsL) (foldLocals predsL) glob (some id) ovr (some t)
      = true := by
  cases revocable with
  | false => rfl
  | true =>
    rw [C08_legacy_exact, checkTs_validOpt]
    exact C08_demands_imp_tight _ glob id ovr t hne hdem

/-- the full accept statement is **false for the code**: a credential that serves a single
*unrevealed* referent with local interval `[15, ∞)`, request-wide interval `[10, 12]`,
timestamp `16`. The referent's demand `[15, ∞)` is met, but the verifier does not look at
unrevealed referents, finds no local interval, falls back to `[10, 12]` and rejects.
(Over-strictness, i.e. a completeness defect — the honest prover computes the same interval
in `CLProofBuilder::add_sub_proof`; same root cause as the ignored unrevealed referents.) -/
theorem C08_accept_legacy_refuted :
    ¬ ∀ (attrsL predsL unrevL : List (Option Ivl)) (glob : Option Ivl) (id : String)
        (ovr : Option Overrides) (t : Nat), t < 2 ^ 64 →
        (∀ loc ∈ attrsL ++ predsL ++ unrevL, validOpt (C08_demand loc glob id ovr) t = true) →
        checkLegacy true (foldLocals attrsL) (foldLocals predsL) glob (some id) ovr (some t)
          = true := by
  intro h
  have := h [] [] [some ⟨some 15, none⟩] (some ⟨some 10, some 12⟩) "reg" none 16 (by decide)
    (by intro loc hloc
        simp only [List.nil_append, List.mem_singleton] at hloc
        subst hloc; decide)
  revert this; decide

/-
Full statement (property text: "one outside the tightest combination of the credential's
local intervals (or outside the request-wide interval when it has no local one) is
rejected", for every identifier of a revocation-capable definition and all referents served):

  ∀ attrsL predsL unrevL glob regId ovr t i, t < 2^64 →
    tight of (attrsL ++ predsL ++ unrevL) = some i → valid i t = false →
    checkLegacy true (foldLocals attrsL) (foldLocals predsL) glob regId ovr (some t) = false

False twice over (`C08_reject_legacy_refuted_unrevealed`, `C08_reject_legacy_refuted_no_regid`).
What is missing in the partial statement: the identifier must carry a `rev_reg_id`, and only
revealed-attribute and predicate referents count.
-/

/-- **reject (legacy)**: revocable definition, registry id present, an interval applies
(`C08_tight_isSome`: a local one on a revealed-attribute or predicate referent, or a
request-wide one) and `t` is outside the tight interval ⇒ the check fails -/
theorem C08_reject_legacy_partial (attrsL predsL : List (Option Ivl)) (glob : Option Ivl)
    (id : String) (ovr : Option Overrides) (t : Nat) (i : Ivl)
    (htight : C08_tight (attrsL ++ predsL) glob id ovr = some i) (hout : valid i t = false) :
    checkLegacy true (foldLocals attrsL) (foldLocals predsL) glob (some id) ovr (some t)
      = false := by
  rw [C08_legacy_exact, htight, checkTs_some_some, hout]

/-- the code's behaviour without a registry id, stated as such: the request-wide interval
and the override are ignored; only the merged local intervals are checked -/
theorem C08_legacy_no_regid (revocable : Bool) (attrsL predsL : List (Option Ivl))
    (glob : Option Ivl) (ovr : Option Overrides) (ts : Option Nat) :
    checkLegacy revocable (foldLocals attrsL) (foldLocals predsL) glob none ovr ts =
      (!revocable || checkTs (foldLocals (attrsL ++ predsL)) ts) := by
  cases revocable with
  | false => rfl
  | true => simp only [checkLegacy, if_true, requested, ← foldLocals_append, Bool.not_true, Bool.false_or]

/-- reject is **false for the code** when the tight local interval sits on an unrevealed
referent: local `[15, ∞)` on an unrevealed referent, nothing else, `t = 3` is accepted -/
theorem C08_reject_legacy_refuted_unrevealed :
    ¬ ∀ (attrsL predsL unrevL : List (Option Ivl)) (glob : Option Ivl) (id : String)
        (ovr : Option Overrides) (t : Nat) (i : Ivl), t < 2 ^ 64 →
        C08_tight (attrsL ++ predsL ++ unrevL) glob id ovr = some i → valid i t = false →
        checkLegacy true (foldLocals attrsL) (foldLocals predsL) glob (some id) ovr (some t)
          = false := by
  intro h
  have := h [] [] [some ⟨some 15, none⟩] none "reg" none 3 ⟨some 15, none⟩ (by decide)
    (by decide) (by decide)
  revert this; decide

/-- reject is **false for the code** when the identifier carries no `rev_reg_id`
(revocable definition, request-wide `[10, 20]`, `t = 5` is accepted — and so is no
timestamp at all, see `C08_needs_timestamp_legacy_refuted`) -/
theorem C08_reject_legacy_refuted_no_regid :
    ¬ ∀ (attrsL predsL : List (Option Ivl)) (g : Ivl) (regId : Option String)
        (ovr : Option Overrides) (t : Nat), t < 2 ^ 64 →
        foldLocals (attrsL ++ predsL) = none → valid g t = false →
        checkLegacy true (foldLocals attrsL) (foldLocals predsL) (some g) regId ovr (some t)
          = false := by
  intro h
  have := h [] [] ⟨some 10, some 20⟩ none none 5 (by decide) (by decide) (by decide)
  revert this; decide

/-- **timestamp required (legacy)**: revocable, registry id present, an interval applies
and the identifier has no timestamp ⇒ the check fails -/
theorem C08_needs_timestamp_legacy_partial (attrsL predsL : List (Option Ivl))
    (glob : Option Ivl) (id : String) (ovr : Option Overrides)
    (happ : (∃ l, some l ∈ attrsL ++ predsL) ∨ glob.isSome = true) :
    checkLegacy true (foldLocals attrsL) (foldLocals predsL) glob (some id) ovr none = false := by
  rw [C08_legacy_exact, checkTs_none, Bool.not_eq_eq_eq_not, Bool.not_false, C08_tight_isSome]
  exact happ

/-- without a registry id a local interval still requires a timestamp … -/
theorem C08_needs_timestamp_legacy_local (attrsL predsL : List (Option Ivl))
    (glob : Option Ivl) (ovr : Option Overrides) (regId : Option String)
    (happ : ∃ l, some l ∈ attrsL ++ predsL) :
    checkLegacy true (foldLocals attrsL) (foldLocals predsL) glob regId ovr none = false := by
  cases regId with
  | some id => exact C08_needs_timestamp_legacy_partial _ _ _ _ _ (Or.inl happ)
  | none =>
    rw [C08_legacy_no_regid, checkTs_none, (foldLocals_isSome _).mpr happ]; rfl

/-- … but a request-wide interval does not: "if any interval applies and the presentation
names no timestamp, verification fails" is **false for the code** for an identifier without
`rev_reg_id` (revocable definition, request-wide `[10, 20]`, no timestamp: accepted) -/
theorem C08_needs_timestamp_legacy_refuted :
    ¬ ∀ (attrsL predsL : List (Option Ivl)) (glob : Option Ivl) (regId : Option String)
        (ovr : Option Overrides),
        ((∃ l, some l ∈ attrsL ++ predsL) ∨ glob.isSome = true) →
        checkLegacy true (foldLocals attrsL) (foldLocals predsL) glob regId ovr none = false := by
  intro h
  have := h [] [] (some ⟨some 10, some 20⟩) none none (Or.inr rfl)
  revert this; decide

/-- credentials from non-revocable definitions ignore every interval, the registry id, the
override and the timestamp -/
theorem C08_nonrevocable_ignores (attrs preds glob : Option Ivl) (regId : Option String)
    (ovr : Option Overrides) (ts : Option Nat) :
    checkLegacy false attrs preds glob regId ovr ts = true := rfl

/-! ### W3C format: `check_credential_non_revoked_interval` (one referent at a time) -/

/-- **exact verdict** of the W3C check when the proof names a registry -/
theorem C08_w3c_exact (loc glob : Option Ivl) (id : String) (ovr : Option Overrides)
    (ts : Option Nat) :
    checkW3C loc glob (some id) ovr ts = checkTs (C08_demand loc glob id ovr) ts := rfl

/-- **accept (W3C)**: `t` meets the referent's demand ⇒ the check passes
(whether or not the proof names a registry) -/
theorem C08_accept_w3c (loc glob : Option Ivl) (regId : Option String) (ovr : Option Overrides)
    (t : Nat) (hdem : ∀ id, regId = some id → validOpt (C08_demand loc glob id ovr) t = true) :
    checkW3C loc glob regId ovr (some t) = true := by
  cases regId with
  | none => rfl
  | some id => rw [C08_w3c_exact, checkTs_validOpt]; exact hdem id rfl

/-- **reject (W3C)**: the proof names a registry and `t` is outside the referent's demand ⇒
the check fails -/
theorem C08_reject_w3c_partial (loc glob : Option Ivl) (id : String) (ovr : Option Overrides)
    (t : Nat) (i : Ivl) (hd : C08_demand loc glob id ovr = some i) (hout : valid i t = false) :
    checkW3C loc glob (some id) ovr (some t) = false := by
  rw [C08_w3c_exact, hd, checkTs_some_some, hout]

/-- **reject at the tight bound (W3C)**: if a timestamp is outside the tight interval
of a non-empty list of referents, the check of at least one of these referents fails
(together with `C08_demands_imp_tight`: the two formats can differ only for timestamps that
pass the tight interval without meeting every demand) -/
theorem C08_reject_w3c_tight (locals : List (Option Ivl)) (glob : Option Ivl) (id : String)
    (ovr : Option Overrides) (t : Nat) (i : Ivl) (hne : locals ≠ [])
    (htight : C08_tight locals glob id ovr = some i) (hout : valid i t = false) :
    ∃ loc ∈ locals, checkW3C loc glob (some id) ovr (some t) = false := by
  apply Classical.byContradiction
  intro hno
  have := C08_demands_imp_tight locals glob id ovr t hne fun loc hloc => by
    rw [← checkTs_validOpt, ← C08_w3c_exact]
    exact (Bool.not_eq_false _).mp fun h => hno ⟨loc, hloc, h⟩
  rw [htight, validOpt, hout] at this; cases this

/-- **timestamp required (W3C)**: the proof names a registry, an interval applies to the
referent (its own or the request-wide one) and the proof has no timestamp ⇒ the check fails -/
theorem C08_needs_timestamp_w3c_partial (loc glob : Option Ivl) (id : String)
    (ovr : Option Overrides) (happ : loc.isSome = true ∨ glob.isSome = true) :
    checkW3C loc glob (some id) ovr none = false := by
  rw [C08_w3c_exact, checkTs_none, C08_demand_isSome, Bool.not_eq_eq_eq_not, Bool.not_false,
    Bool.or_eq_true]
  exact happ

/-- the code's behaviour, stated as such: a W3C proof without `rev_reg_id` passes the
interval check whatever the intervals, the override and the timestamp. Hence the claims
"reject (W3C)" and "timestamp required (W3C)" for every proof of a revocable credential are false
for the code (`C08_reject_w3c_refuted`, `C08_needs_timestamp_w3c_refuted`); the `_partial` ones
need the registry id. -/
theorem C08_w3c_no_regid_ignores (loc glob : Option Ivl) (ovr : Option Overrides)
    (ts : Option Nat) : checkW3C loc glob none ovr ts = true := rfl

/-- witness for the previous remark: local `[15, ∞)`, no registry id, `t = 3` — accepted -/
theorem C08_reject_w3c_refuted :
    ¬ ∀ (loc glob : Option Ivl) (regId : Option String) (ovr : Option Overrides) (t : Nat)
        (i : Ivl), t < 2 ^ 64 → loc = some i → valid i t = false →
        checkW3C loc glob regId ovr (some t) = false := by
  intro h
  have := h (some ⟨some 15, none⟩) none none none 3 ⟨some 15, none⟩ (by decide) rfl (by decide)
  revert this; decide

/-- witness for the previous remark: request-wide `[10, 20]`, local `[15, ∞)`, no registry
id, no timestamp — accepted -/
theorem C08_needs_timestamp_w3c_refuted :
    ¬ ∀ (loc glob : Option Ivl) (regId : Option String) (ovr : Option Overrides),
        (loc.isSome = true ∨ glob.isSome = true) → checkW3C loc glob regId ovr none = false := by
  intro h
  have := h (some ⟨some 15, none⟩) (some ⟨some 10, some 20⟩) none none (Or.inl rfl)
  revert this; decide

/-- for a credential serving a single revealed-attribute referent and no predicate, of a
revocable definition, with a registry id: both formats give the same verdict -/
theorem C08_formats_agree_single (loc glob : Option Ivl) (id : String) (ovr : Option Overrides)
    (ts : Option Nat) :
    checkLegacy true (foldLocals [loc]) (foldLocals []) glob (some id) ovr ts =
      checkW3C loc glob (some id) ovr ts := by
  rw [C08_legacy_exact, C08_w3c_exact]
  cases loc <;> cases glob <;> rfl

/-- between the two bounds the formats do differ (not claimed by the property; recorded so
that nobody tries to prove agreement): referents `[15, ∞)` and "none", request-wide
`[10, 12]`, `t = 16` — legacy accepts (the request-wide interval is dropped as soon as one
referent has a local one), W3C rejects the second referent -/
theorem C08_formats_differ_between_bounds :
    checkLegacy true (foldLocals [some ⟨some 15, none⟩, none]) (foldLocals [])
        (some ⟨some 10, some 12⟩) (some "reg") none (some 16) = true ∧
    checkW3C none (some ⟨some 10, some 12⟩) (some "reg") none (some 16) = false := by
  decide

/-- the prover-side function is the verifier-side one on the merged locals when a registry
id is present, and yields no interval without one -/
theorem C08_prover_interval (attrs preds glob : Option Ivl) (regId : Option String)
    (ovr : Option Overrides) :
    proverInterval attrs preds glob regId ovr =
      match regId with
      | some id => requested (some id) (mergeOpt attrs preds) glob ovr
      | none => none := by
  cases regId <;> rfl

section Examples
private def g : Option Ivl := some ⟨some 10, some 20⟩
private def l : Option Ivl := some ⟨some 15, none⟩
private def o : Option Overrides := some [("reg", [(15, 5)])]

example : C08_demand l g "reg" o = some ⟨some 5, none⟩ := by decide +kernel
example : C08_demand none g "reg" o = some ⟨some 10, some 20⟩ := by decide +kernel
example : C08_demand l g "other" o = some ⟨some 15, none⟩ := by decide +kernel
example : C08_demand l g "reg" (some [("reg", [(14, 5)])]) = some ⟨some 15, none⟩ := by decide +kernel
example : overrideFor "reg" (some [("reg", [(20, 1)])]) ⟨some 10, some 20⟩ = ⟨some 10, some 20⟩ := by
  decide +kernel
example : checkW3C l g (some "reg") o (some 4) = false := by decide +kernel
example : checkW3C l g (some "reg") o (some 5) = true := by decide +kernel
example : checkW3C l g (some "reg") o (some 14) = true := by decide +kernel
example : checkW3C l g (some "reg") o (some 21) = true := by decide +kernel
example : checkW3C l g (some "reg") none (some 14) = false := by decide +kernel
example : checkW3C l g (some "reg") none (some 15) = true := by decide +kernel
example : checkW3C none g (some "reg") o (some 9) = false := by decide +kernel
example : checkW3C none g (some "reg") o (some 10) = true := by decide +kernel
example : checkW3C none g (some "reg") o (some 20) = true := by decide +kernel
example : checkW3C none g (some "reg") o (some 21) = false := by decide +kernel
example : checkLegacy true l none g (some "reg") o (some 4) = false := by decide +kernel
example : checkLegacy true l none g (some "reg") o (some 5) = true := by decide +kernel
example : checkLegacy true none none g (some "reg") o (some 20) = true := by decide +kernel
example : checkLegacy true none none g (some "reg") o (some 21) = false := by decide +kernel
example : checkLegacy true none none g (some "reg") o none = false := by decide +kernel
example : checkLegacy false l none g (some "reg") o none = true := by decide +kernel
-- the width hypothesis is not idle: `2^64` fails an absent upper bound, `2^64 - 1` passes
example : valid ⟨none, none⟩ (2 ^ 64) = false := by decide +kernel
example : valid ⟨none, none⟩ (2 ^ 64 - 1) = true := by decide +kernel
-- the merge keeps the later `from` and the earlier `to`; override after the merge is keyed
-- by the merged bound
example : foldLocals [some ⟨some 10, some 50⟩, none, some ⟨some 15, none⟩, some ⟨none, some 40⟩]
    = some ⟨some 15, some 40⟩ := by decide +kernel
example : C08_tight [some ⟨some 10, none⟩, some ⟨some 15, none⟩] g "reg" o = some ⟨some 5, none⟩ := by
  decide +kernel
example : C08_tight [some ⟨some 10, none⟩, some ⟨some 15, none⟩] g "reg"
    (some [("reg", [(10, 5)])]) = some ⟨some 15, none⟩ := by decide +kernel
-- hypotheses of `C08_accept_legacy_partial` are satisfiable with a bound-raising override
example : ∀ loc ∈ [some ⟨some 10, none⟩, some ⟨some 15, none⟩] ++ ([] : List (Option Ivl)),
    validOpt (C08_demand loc g "reg" (some [("reg", [(10, 30)])])) 30 = true := by decide +kernel
end Examples

end AnonModel.Interval
