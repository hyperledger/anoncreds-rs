import AnonModel.Model.IssuanceW3C
import AnonModel.Lemmas.Convert
import AnonModel.Props.C11
/-!
# C11, W3C form

`createCredentialW3C` / `processCredentialW3C` are the legacy functions after `CredentialSubject::encode`;
the statements below lift `C11_issue_ok_iff` / `C11_process_ok_iff` through that encoding and add what is
specific to the W3C form: a boolean subject entry is never signed and never accepted, whatever else holds.
-/
namespace AnonModel.IssuanceW3C
open AnonModel AnonModel.Issuance AnonModel.Convert AnonModel.Flows
open AnonModel.VerifierW3C (SubjVal)

/-- no entry of the subject is a boolean -/
def NoBool (s : Subject) : Prop := ∀ nv ∈ s, ∀ b, nv.2 ≠ .bool b

/-- the values the CL layer is handed for a subject without booleans -/
def signedValues (s : Subject) : List (String × String) := encodedOf (s.map encEntry)

theorem subjectEncode_cases (s : Subject) :
    NoBool s ∧ subjectEncode s = some (s.map encEntry) ∨ ¬ NoBool s ∧ subjectEncode s = none := by
  by_cases h : NoBool s
  · exact .inl ⟨h, (subjectEncode_eq_some_iff s _).mpr ⟨h, rfl⟩⟩
  · exact .inr ⟨h, Option.eq_none_iff_forall_ne_some.mpr fun v hv => h ((subjectEncode_eq_some_iff s v).mp hv).1⟩

theorem createCredentialW3C_eq_some_iff {cd : CredDef} {offer : Offer} {req : CredRequest} {s : Subject}
    {c : CredentialW3C} :
    createCredentialW3C cd offer req s = some c ↔
      NoBool s ∧ ∃ lc, createCredential cd offer req (signedValues s) = some lc ∧
        c = { subject := s, sig := lc.sig } := by
  unfold createCredentialW3C signedValues
  rcases subjectEncode_cases s with ⟨h, he⟩ | ⟨h, he⟩ <;> simp only [he]
  · cases createCredential cd offer req (encodedOf (s.map encEntry)) <;> simp [h, eq_comm]
  · simp [h]

/-- **W3C issuance succeeds iff** no subject entry is a boolean and the legacy conditions hold for the
encoded subject: entropy / prover DID present, correctness proof intact, made for this key and under
this offer's nonce, and the subject names exactly the schema's attributes. -/
theorem C11_w3c_issue_ok_iff (cd : CredDef) (offer : Offer) (req : CredRequest) (s : Subject) :
    (createCredentialW3C cd offer req s).isSome = true ↔
      NoBool s ∧ (entropyOf req).isSome = true ∧ req.blinded.intact = true ∧ req.blinded.key = cd.key ∧
      req.blinded.proofNonce = offer.nonce ∧ SameNames (signedValues s) cd := by
  rw [← C11_issue_ok_iff]
  simp only [Option.isSome_iff_exists, createCredentialW3C_eq_some_iff]
  exact ⟨fun ⟨_, h, lc, hlc, _⟩ => ⟨h, lc, hlc⟩, fun ⟨h, lc, hlc⟩ => ⟨_, h, lc, hlc, rfl⟩⟩

/-- **a boolean entry is never signed** (whatever its value, whatever the rest of the input) -/
theorem C11_w3c_issue_boolean_refused (cd : CredDef) (offer : Offer) (req : CredRequest) {s : Subject}
    {nv : String × SubjVal} {b : Bool} (hm : nv ∈ s) (hb : nv.2 = .bool b) :
    createCredentialW3C cd offer req s = none :=
  Option.eq_none_iff_forall_ne_some.mpr fun _ hc => (createCredentialW3C_eq_some_iff.mp hc).1 nv hm b hb

/-- the issued credential shows the subject as given and its signature is the legacy one over the
encoded subject -/
theorem C11_w3c_issue_returns {cd : CredDef} {offer : Offer} {req : CredRequest} {s : Subject}
    {c : CredentialW3C} (h : createCredentialW3C cd offer req s = some c) :
    c.subject = s ∧ NoBool s ∧
      createCredential cd offer req (signedValues s) = some { values := signedValues s, sig := c.sig } := by
  obtain ⟨hnb, lc, hlc, rfl⟩ := createCredentialW3C_eq_some_iff.mp h
  exact ⟨rfl, hnb, by rw [hlc, ← (C11_issue_returns hlc).1]⟩

/-- **W3C processing succeeds iff** no subject entry is a boolean, the proof holds a credential
signature, and the legacy conditions hold for the encoded subject. -/
theorem C11_w3c_process_ok_iff (c : CredentialW3C) (sp : Bool) (m : ReqMeta) (holder : Nat) (cd : CredDef) :
    processCredentialW3C c sp m holder cd = true ↔
      NoBool c.subject ∧ sp = true ∧
      processCredential { values := signedValues c.subject, sig := c.sig } m holder cd = true := by
  unfold processCredentialW3C signedValues
  rcases subjectEncode_cases c.subject with ⟨h, he⟩ | ⟨h, he⟩ <;> simp [he, h]

/-- **a boolean entry spliced into an issued credential is rejected** -/
theorem C11_w3c_process_boolean_rejected {c : CredentialW3C} (sp : Bool) (m : ReqMeta) (holder : Nat) (cd : CredDef)
    {nv : String × SubjVal} {b : Bool} (hm : nv ∈ c.subject) (hb : nv.2 = .bool b) :
    processCredentialW3C c sp m holder cd = false :=
  Bool.eq_false_iff.mpr fun hp => ((C11_w3c_process_ok_iff ..).mp hp).1 nv hm b hb

/-- **honest W3C round trip**: request, W3C issuance, processing with the same metadata, link secret
and definition succeeds (names pairwise distinct after normalisation, as in the legacy statement). -/
theorem C11_w3c_honest_roundtrip {entropy proverDid : Option String} {cd : CredDef} {holder blinding : Nat}
    {reqNonce : String} {offer : Offer} {req : CredRequest} {m : ReqMeta} {s : Subject} {c : CredentialW3C}
    (hreq : createCredentialRequest entropy proverDid cd holder blinding reqNonce offer = some (req, m))
    (hiss : createCredentialW3C cd offer req s = some c)
    (hnd : ((signedValues s).map (fun nv => Names.commonView nv.1)).Nodup) :
    processCredentialW3C c true m holder cd = true := by
  obtain ⟨hs, hnb, hlc⟩ := C11_w3c_issue_returns hiss
  rw [C11_w3c_process_ok_iff, hs]
  exact ⟨hnb, rfl, C11_honest_roundtrip hreq hlc hnd⟩

/-- processing with another link secret fails: lifted from the legacy statement through the encoding -/
theorem C11_w3c_tamper_rejected_other_holder {entropy proverDid : Option String} {cd : CredDef} {holder blinding : Nat}
    {reqNonce : String} {offer : Offer} {req : CredRequest} {m : ReqMeta} {s : Subject} {c : CredentialW3C}
    (hreq : createCredentialRequest entropy proverDid cd holder blinding reqNonce offer = some (req, m))
    (hiss : createCredentialW3C cd offer req s = some c) {other : Nat} (ho : other ≠ holder) (sp : Bool) :
    processCredentialW3C c sp m other cd = false := by
  obtain ⟨hs, _, hlc⟩ := C11_w3c_issue_returns hiss
  rw [Bool.eq_false_iff, Ne, C11_w3c_process_ok_iff, hs, C11_tamper_rejected_other_holder hreq hlc ho]
  simp

private def cd0 : CredDef := { id := "did:web:x/cd", key := 1, schemaAttrs := ["First Name", "age"] }
private def blinded0 : Blinded := { key := 1, holder := 7, blinding := 9, proofNonce := "111", intact := true }
private def req0 : CredRequest := { entropy := some "e", proverDid := none, blinded := blinded0, nonce := "222" }
private def offer0 : Offer := { nonce := "111" }
private def meta0 : ReqMeta := { blinding := 9, nonce := "222" }
private def subj0 : Subject := [("firstname", .num 42), ("age", .num 28)]

example : (createCredentialW3C cd0 offer0 req0 subj0).isSome = true := by decide +kernel
example : (createCredentialW3C cd0 offer0 req0 (("vip", .bool true) :: subj0)).isSome = false := by decide +kernel
example : (createCredentialW3C cd0 offer0 req0 (("vip", .num 1) :: subj0)).isSome = false := by decide +kernel
example : ∀ c, createCredentialW3C cd0 offer0 req0 subj0 = some c → processCredentialW3C c true meta0 7 cd0 = true :=
  fun _ h => C11_w3c_honest_roundtrip (entropy := some "e") (proverDid := none) (blinding := 9) (reqNonce := "222")
    ((C11_request_ok_iff ..).mpr ⟨by decide +kernel, rfl, rfl, rfl, rfl, rfl, rfl⟩) h (by decide +kernel)
example : ∀ c, createCredentialW3C cd0 offer0 req0 subj0 = some c →
    processCredentialW3C { c with subject := ("vip", .bool true) :: c.subject } true meta0 7 cd0 = false :=
  fun _ _ => C11_w3c_process_boolean_rejected _ _ _ _ List.mem_cons_self rfl
example : ∀ c, createCredentialW3C cd0 offer0 req0 subj0 = some c → processCredentialW3C c false meta0 7 cd0 = false :=
  fun _ _ => Bool.eq_false_iff.mpr fun h => nomatch ((C11_w3c_process_ok_iff ..).mp h).2.1

end AnonModel.IssuanceW3C
