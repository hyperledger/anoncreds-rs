import AnonModel.Lemmas.VerifierLegacy
import AnonModel.Props.C08
/-!
# C02 (legacy format) — revocation: what a verified presentation establishes, and what it does not

Soundness direction for `Verifier.verifyLegacy` (model of `services/verifier.rs:
verify_presentation`) on top of the ideal CL functionality.

Property text: *for a credential from a revocable definition, when the request demands
non-revocation, a verified presentation carries a non-revocation part that validates against the
accumulator of the status list the verifier supplied for the named registry and timestamp, and the
timestamp lies in the demanded interval.*

Status: **false of the code as a whole** — `C02_full_claim`, refuted three times over by small
accepted presentations (`C02_refuted_no_nrp` = F3, `C02_refuted_strip_regid` = F4,
`C02_refuted_unrevealed_interval` = F5; `C02_full_claim_refuted`). What is proved
(`C02_legacy_partial`): **if** the identifier names a registry and a timestamp **and** the sub-proof
carries a non-revocation part, then that part validates against the accumulator of the list
supplied for exactly that (registry, timestamp), with the key of the supplied registry definition,
for the index the credential was issued at; and the timestamp passed the interval check of that
identifier — for a `u64` timestamp, it lies in the tight interval (`C08_tight`) of the revealed-attribute
and predicate referents of that credential (`C02_legacy_timestamp_partial` does not need the
non-revocation part). What is missing: nothing forces the non-revocation part to be *present*
(F3: the CL verifier skips the check silently when the sub-proof has none), nothing forces the
identifier to *name* a registry (F4: without `rev_reg_id` the request-wide interval is dropped and
no registry is looked up), and intervals on unrevealed referents are not looked at (F5).

No key-uniqueness hypothesis is needed.
-/
namespace AnonModel.Verifier
open AnonModel.Interval
open AnonModel.IdealCL

/-- the non-revocation part `n` of sub-proof `s` validates against what the verifier supplied for
identifier `id`: registry definition `d` for the named registry, status list `l` for the named
(registry, timestamp); same accumulator, same registry key, witness equation holds, and it is about
the index the credential was issued at -/
def C02_NrpValid (ctx : Ctx) (id : Identifier) (s : SymSub) (n : SymNrp) : Prop :=
  ∃ rid ts defs ls d l, id.revRegId = some rid ∧ id.timestamp = some ts ∧
    ctx.revRegDefs = some defs ∧ ctx.lists = some ls ∧ defs.lookup rid = some d ∧
    findList ls rid ts = some l ∧ l.acc = some n.acc ∧ n.regKey = d.regKey ∧ n.witOk = true ∧
    s.cred.rev = some (n.regKey, n.idx)

/-- **C02 (partial)**: in an accepted presentation, for an identifier of a revocable definition that
names registry `rid` and timestamp `ts`, whose sub-proof carries a non-revocation part `n`:
* registry definition and status list for exactly (`rid`, `ts`) were supplied, and `n` validates
  against them (`C02_NrpValid` spelled out);
* the aggregated proof has the non-revocation part hashed in;
* the interval check of this identifier passed (spelled out with `attrLocals`/`predLocals`), i.e.
  `ts` passes the tight interval of the credential's revealed-attribute and predicate referents. -/
theorem C02_legacy_partial {ctx : Ctx} {r : Request} {p : Presentation}
    (h : verifyLegacy ctx r p = .ok true) {i : Nat} {id : Identifier} {cd : CredDefInfo}
    {s : SymSub} {n : SymNrp} {rid : String} {ts : Nat}
    (hid : p.identifiers[i]? = some id) (hcd : ctx.credDefs.lookup id.credDefId = some cd)
    (hrev : cd.revocable = true) (hrid : id.revRegId = some rid) (hts : id.timestamp = some ts)
    (hs : p.subs[i]? = some s) (hn : s.nrp = some n) :
    (∃ defs ls d l, ctx.revRegDefs = some defs ∧ ctx.lists = some ls ∧ defs.lookup rid = some d ∧
      findList ls rid ts = some l ∧ l.acc = some n.acc ∧ n.regKey = d.regKey ∧ n.witOk = true ∧
      s.cred.rev = some (n.regKey, n.idx)) ∧
    p.agg.bound[i]? = some (s.uid, true) ∧
    (∃ al pl, attrLocals r p i = some al ∧ predLocals r p i = some pl ∧
      checkLegacy true (foldLocals al) (foldLocals pl) r.nonRevoked (some rid) ctx.override (some ts)
        = true ∧
      validOpt (C08_tight (al ++ pl) r.nonRevoked rid ctx.override) ts = true) := by
  obtain ⟨id', c, hid', hf, hb, -, -, hnrp⟩ := (ok_subs h).2 i s hs
  cases hid.symm.trans hid'
  obtain ⟨hof, -, al, pl, cd', hal, hpl, hcd', hck⟩ := subCtxFor_eq_some_iff.mp hf
  cases hcd.symm.trans hcd'
  obtain ⟨hchk, hvalid⟩ := nrp_verified (verifyLegacy_ok_true_iff.mp h).lists hof hcd hrev hrid hts hn hnrp
  rw [hrev, hrid, hts] at hck
  exact ⟨hvalid, hchk ▸ hb, al, pl, hal, hpl, hck,
    by rwa [C08_legacy_exact, checkTs_validOpt] at hck⟩

/-- the conclusion of `C02_legacy_partial` in the vocabulary of the full claim -/
theorem C02_legacy_nrp_valid_partial {ctx : Ctx} {r : Request} {p : Presentation}
    (h : verifyLegacy ctx r p = .ok true) {i : Nat} {id : Identifier} {cd : CredDefInfo}
    {s : SymSub} {n : SymNrp} {rid : String} {ts : Nat}
    (hid : p.identifiers[i]? = some id) (hcd : ctx.credDefs.lookup id.credDefId = some cd)
    (hrev : cd.revocable = true) (hrid : id.revRegId = some rid) (hts : id.timestamp = some ts)
    (hs : p.subs[i]? = some s) (hn : s.nrp = some n) : C02_NrpValid ctx id s n := by
  obtain ⟨⟨defs, ls, d, l, h1⟩, -⟩ := C02_legacy_partial h hid hcd hrev hrid hts hs hn
  exact ⟨rid, ts, defs, ls, d, l, hrid, hts, h1⟩

/-- **interval and timestamp (partial)**: in an accepted presentation, for an identifier of a
revocable definition that names a registry `rid` (with or without a non-revocation part): if an
interval applies to the credential's revealed-attribute / predicate referents (a local one, or
else the request-wide one), the identifier names a timestamp that passes the tight interval, and a
registry definition and a status list for exactly that (registry, timestamp) were supplied -/
theorem C02_legacy_timestamp_partial {ctx : Ctx} {r : Request} {p : Presentation}
    (h : verifyLegacy ctx r p = .ok true) {i : Nat} {id : Identifier} {cd : CredDefInfo}
    {rid : String}
    (hid : p.identifiers[i]? = some id) (hcd : ctx.credDefs.lookup id.credDefId = some cd)
    (hrev : cd.revocable = true) (hrid : id.revRegId = some rid) :
    ∃ al pl, attrLocals r p i = some al ∧ predLocals r p i = some pl ∧
      ∀ T, C08_tight (al ++ pl) r.nonRevoked rid ctx.override = some T →
        ∃ ts defs ls d l, id.timestamp = some ts ∧ valid T ts = true ∧
          ctx.revRegDefs = some defs ∧ ctx.lists = some ls ∧ defs.lookup rid = some d ∧
          findList ls rid ts = some l := by
  obtain ⟨s, hs, -⟩ := ok_sub_exists h hid
  obtain ⟨id', c, hid', hf, -⟩ := (ok_subs h).2 i s hs
  cases hid.symm.trans hid'
  obtain ⟨hof, -, al, pl, cd', hal, hpl, hcd', hck⟩ := subCtxFor_eq_some_iff.mp hf
  cases hcd.symm.trans hcd'
  obtain ⟨-, -, regKey, acc, -, -, hrr, -⟩ := subCtxOf_some hof
  refine ⟨al, pl, hal, hpl, fun T hT => ?_⟩
  rw [hrev, hrid, C08_legacy_exact, hT] at hck
  obtain ⟨ts, hts, hv⟩ := (checkTs_some_iff T _).mp hck
  obtain ⟨defs, ls, d, l, hdefs, hls, hd, hl, -, -⟩ := revocationRegistry_some hrid hts hrr
  exact ⟨ts, defs, ls, d, l, hts, hv, hdefs, hls, hd, hl⟩

/-- which local intervals enter the tight interval: exactly those of the requested attributes
revealed (singly or in a group) from credential `i` and of the requested predicates proven from
credential `i` — **not** those of unrevealed referents (F5) -/
theorem C02_locals_spec {r : Request} {p : Presentation} {i : Nat} {al pl : List (Option Ivl)}
    (hal : attrLocals r p i = some al) (hpl : predLocals r p i = some pl) (x : Option Ivl) :
    x ∈ al ++ pl ↔
      (∃ ref a, r.attrs.lookup ref = some a ∧ a.nonRevoked = x ∧
        ((∃ info, (ref, info) ∈ p.revealed ∧ info.idx = i) ∨
         (∃ g, (ref, g) ∈ p.groups ∧ g.idx = i))) ∨
      (∃ ref q, r.preds.lookup ref = some q ∧ q.nonRevoked = x ∧ (ref, i) ∈ p.predicates) := by
  rw [List.mem_append, attrLocals_mem hal, predLocals_mem hpl]

/-- without an override and for a `u64` timestamp, the tight interval unfolds to: the timestamp is
inside every local interval of those referents, and inside the request-wide interval when none of
them has a local one -/
theorem C02_tight_no_override (locals : List (Option Ivl)) (glob : Option Ivl) (rid : String)
    (t : Nat) (ht : t < 2 ^ 64) :
    validOpt (C08_tight locals glob rid none) t = true ↔
      (∀ l, some l ∈ locals → valid l t = true) ∧
      ((∀ x ∈ locals, x = none) → ∀ g, glob = some g → valid g t = true) := by
  have e : C08_tight locals glob rid none = (foldLocals locals).or glob := by
    rw [C08_tight_eq, C08_demand, requested_some]; cases (foldLocals locals).or glob <;> rfl
  rw [e, ← C08_valid_foldMerge locals t ht, ← C08_fold_none_iff]
  cases foldLocals locals with
  | some T => simp [validOpt]
  | none => cases glob <;> simp [validOpt]

/-! ### the full claim and its three refutations -/

/-- "the request demands non-revocation of the credential at index `i`": it carries a request-wide
interval, or a local interval on some referent (revealed, group, unrevealed or predicate) that the
presentation serves from credential `i` -/
def C02_Demands (r : Request) (p : Presentation) (i : Nat) : Prop :=
  r.nonRevoked.isSome = true ∨
  (∃ ref info a, (ref, info) ∈ p.revealed ∧ info.idx = i ∧ r.attrs.lookup ref = some a ∧
    a.nonRevoked.isSome = true) ∨
  (∃ ref g a, (ref, g) ∈ p.groups ∧ g.idx = i ∧ r.attrs.lookup ref = some a ∧
    a.nonRevoked.isSome = true) ∨
  (∃ ref a, (ref, i) ∈ p.unrevealed ∧ r.attrs.lookup ref = some a ∧ a.nonRevoked.isSome = true) ∨
  (∃ ref q, (ref, i) ∈ p.predicates ∧ r.preds.lookup ref = some q ∧ q.nonRevoked.isSome = true)

/-- **the full claim** (kept visible; false of the code): revocable definition ∧ the request demands
non-revocation ⇒ the sub-proof carries a non-revocation part and it validates against the
supplied registry definition and status list for the identifier's registry and timestamp -/
def C02_full_claim : Prop :=
  ∀ (ctx : Ctx) (r : Request) (p : Presentation), verifyLegacy ctx r p = .ok true →
    ∀ (i : Nat) (id : Identifier) (cd : CredDefInfo) (s : SymSub),
      p.identifiers[i]? = some id → ctx.credDefs.lookup id.credDefId = some cd →
      cd.revocable = true → p.subs[i]? = some s → C02_Demands r p i →
      ∃ n, s.nrp = some n ∧ C02_NrpValid ctx id s n

/-- scenario for the refutations: the honest scenario with a revocable definition, registry `R`
(key 5) and one status list for (`R`, 10) with accumulator 77; the credential was issued in `R` at
index 3 -/
def C02_ctx : Ctx :=
  { Honest.ctx with
    credDefs := [("C", { issuerId := "I", key := 1, revocable := true })],
    revRegDefs := some [("R", { regKey := 5 })],
    lists := some [{ regId := some "R", ts := some 10, acc := some 77 }] }

/-- honest sub-proof with a valid non-revocation part for accumulator 77 -/
def C02_sub : SymSub :=
  { Honest.sub with cred := { Honest.sub.cred with rev := some (5, 3) },
                    nrp := some { regKey := 5, idx := 3, acc := 77, witOk := true } }

/-- the same sub-proof built **without** a non-revocation part (e.g. by a holder whose credential
has been revoked since) -/
def C02_subNoNrp : SymSub := { C02_sub with nrp := none }

def C02_ident : Identifier :=
  { schemaId := "S", credDefId := "C", revRegId := some "R", timestamp := some 10 }

def C02_req : Request := { Honest.req with nonRevoked := some ⟨some 5, some 20⟩ }

def C02_pres : Presentation :=
  { Honest.pres with identifiers := [C02_ident], subs := [C02_sub],
                     agg := { Honest.pres.agg with bound := [(1, true)] } }

/-- presentation without non-revocation part, for identifier `id` -/
def C02_presNoNrp (id : Identifier) : Presentation :=
  { Honest.pres with identifiers := [id], subs := [C02_subNoNrp],
                     agg := { Honest.pres.agg with bound := [(1, false)] } }

/-- shape shared by the three refutations: an accepted presentation, a revocable definition, a
demand, and no non-revocation part -/
def C02_Counterexample (ctx : Ctx) (r : Request) (p : Presentation) : Prop :=
  verifyLegacy ctx r p = .ok true ∧
  ∃ (i : Nat) (id : Identifier) (cd : CredDefInfo) (s : SymSub),
    p.identifiers[i]? = some id ∧ ctx.credDefs.lookup id.credDefId = some cd ∧
    cd.revocable = true ∧ p.subs[i]? = some s ∧ C02_Demands r p i ∧ s.nrp = none

/-- any such counterexample refutes the full claim -/
theorem C02_counterexample_refutes {ctx : Ctx} {r : Request} {p : Presentation}
    (h : C02_Counterexample ctx r p) : ¬ C02_full_claim := by
  intro hfull
  obtain ⟨hok, i, id, cd, s, hid, hcd, hrev, hs, hdem, hnone⟩ := h
  obtain ⟨n, hn, -⟩ := hfull ctx r p hok i id cd s hid hcd hrev hs hdem
  rw [hnone] at hn; cases hn

/-- **F3 — no non-revocation part**: request-wide interval `[5, 20]`; the identifier names registry
`R` and the listed timestamp 10; the sub-proof has no non-revocation part (and the aggregated proof
was built without one). The CL verifier skips the check silently: accepted. -/
theorem C02_refuted_no_nrp : C02_Counterexample C02_ctx C02_req (C02_presNoNrp C02_ident) :=
  ⟨by decide +kernel, 0, C02_ident, { issuerId := "I", key := 1, revocable := true }, C02_subNoNrp,
    rfl, rfl, rfl, rfl, Or.inl rfl, rfl⟩

/-- **F4 — stripped registry id**: same request; the identifier carries neither `rev_reg_id` nor
`timestamp`. Without a registry id `get_requested_non_revoked_interval` returns the (absent) local
interval: the request-wide interval is ignored, no registry is looked up: accepted. -/
theorem C02_refuted_strip_regid :
    C02_Counterexample C02_ctx C02_req
      (C02_presNoNrp { C02_ident with revRegId := none, timestamp := none }) :=
  ⟨by decide +kernel, 0, { C02_ident with revRegId := none, timestamp := none },
    { issuerId := "I", key := 1, revocable := true }, C02_subNoNrp,
    rfl, rfl, rfl, rfl, Or.inl rfl, rfl⟩

/-- request with a local interval `[5, 20]` on the **unrevealed** referent `a2` only -/
def C02_reqUnrevealed : Request :=
  { Honest.req with attrs := [("a1", ⟨some "name", none, some (.eq "cred_def_id" "C"), none⟩),
                              ("a2", ⟨some "id", none, none, some ⟨some 5, some 20⟩⟩)] }

/-- **F5 — interval on an unrevealed referent**: the only interval of the request sits on the
unrevealed referent `a2`; the identifier names the registry but no timestamp.
`get_attributes_for_credential` looks at revealed referents only, so no interval applies, no
timestamp is required, no registry is looked up: accepted. -/
theorem C02_refuted_unrevealed_interval :
    C02_Counterexample C02_ctx C02_reqUnrevealed
      (C02_presNoNrp { C02_ident with timestamp := none }) :=
  ⟨by decide +kernel, 0, { C02_ident with timestamp := none },
    { issuerId := "I", key := 1, revocable := true }, C02_subNoNrp,
    rfl, rfl, rfl, rfl,
    Or.inr (Or.inr (Or.inr (Or.inl
      ⟨"a2", ⟨some "id", none, none, some ⟨some 5, some 20⟩⟩,
        List.mem_cons_self .., rfl, rfl⟩))), rfl⟩

/-- the full claim is **false of the code** -/
theorem C02_full_claim_refuted : ¬ C02_full_claim :=
  C02_counterexample_refutes C02_refuted_no_nrp

section Examples

example : verifyLegacy C02_ctx C02_req C02_pres = .ok true := by decide +kernel
example : C02_pres.identifiers[0]? = some C02_ident ∧ C02_pres.subs[0]? = some C02_sub ∧
    C02_sub.nrp = some { regKey := 5, idx := 3, acc := 77, witOk := true } := ⟨rfl, rfl, rfl⟩
example : verifyLegacy C02_ctx C02_req
    { C02_pres with subs := [{ C02_sub with nrp := some ⟨5, 3, 78, true⟩ }] } = .ok false := by decide +kernel
example : verifyLegacy C02_ctx C02_req
    { C02_pres with subs := [{ C02_sub with nrp := some ⟨5, 3, 77, false⟩ }] } = .ok false := by decide +kernel
example : verifyLegacy C02_ctx C02_req
    { C02_pres with subs := [{ C02_sub with nrp := some ⟨5, 4, 77, true⟩ }] } = .ok false := by decide +kernel
-- timestamp outside `[5, 20]`, or inside but without a supplied list: `Err`
example : verifyLegacy C02_ctx C02_req
    { C02_pres with identifiers := [{ C02_ident with timestamp := some 21 }] } = .err := by decide +kernel
example : verifyLegacy C02_ctx C02_req
    { C02_pres with identifiers := [{ C02_ident with timestamp := some 11 }] } = .err := by decide +kernel
-- contrast to F4: registry id kept, timestamp dropped ⇒ rejected
example : verifyLegacy C02_ctx C02_req (C02_presNoNrp { C02_ident with timestamp := none })
    = .err := by decide +kernel
-- contrast to F5: the same local interval on the *revealed* referent `a1` ⇒ rejected
example : verifyLegacy C02_ctx
    { Honest.req with attrs := [("a1", ⟨some "name", none, none, some ⟨some 5, some 20⟩⟩),
                                ("a2", ⟨some "id", none, none, none⟩)] }
    (C02_presNoNrp { C02_ident with timestamp := none }) = .err := by decide +kernel
end Examples

end AnonModel.Verifier
