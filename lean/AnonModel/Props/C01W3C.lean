import AnonModel.Lemmas.VerifierW3C
import AnonModel.Lemmas.Encode
/-!
# C01 (W3C form) — an accepted W3C presentation proves exactly the requested predicates and
attributes

The property theorems and the predicates of their statements (lemmas: `Lemmas/VerifierW3C.lean`).
Vocabulary (all about one credential `c` of the presentation; `c.sub` is its CL sub-proof,
`c.sub.cred` the — ghost — credential the sub-proof was built from, i.e. what the issuer signed):
* `ProvesPred c q` — `c` carries the boolean marker for the requested predicate `q` and its
  sub-proof carries *that* predicate: same attribute (up to `attr_common_view`), same comparison,
  same threshold; and the predicate is true of the signed value;
* `Reveals c n` — the subject of `c` has a string/number for the requested name `n` and the
  sub-proof reveals, for that attribute, the encoding of exactly that string/number, which is the
  value the issuer signed;
* `HoldsAttr ctx c n` — the schema supplied for `c` has the attribute `n` and so does the signed
  credential (the attribute is *held*, not revealed);
* `CredSound ctx c` (Lemmas) — the sub-proof of `c` is an unaltered proof over a credential signed
  with the key of the definition the verifier supplied, etc.

The W3C format has no referent map and no self-attested attributes: each requested item must be
served by some credential of the presentation that also meets the item's restrictions and interval
(`conditionsOk`, see C06 / C02 for what that entails).
-/
namespace AnonModel.VerifierW3C
open AnonModel.Verifier AnonModel.IdealCL AnonModel

/-- the credential proves the requested predicate `q` (same attribute, comparison, threshold) -/
def ProvesPred (c : Cred) (q : PredInfo) : Prop :=
  ∃ a, getPredicate c q.name = some a ∧
    ∃ pr ∈ c.sub.preds, Names.commonView pr.attr = Names.commonView a ∧ pr.ty = q.ty ∧
      pr.value = q.value ∧ Names.commonView pr.attr = Names.commonView q.name ∧
      pr.attr = Names.commonView q.name ∧ predHolds c.sub.cred.attrs pr = true

/-- the credential reveals the requested attribute name `n`, with the issuer-signed value -/
def Reveals (c : Cred) (n : String) : Prop :=
  ∃ k v, getAttribute c n = some (k, v) ∧ Names.commonView k = Names.commonView n ∧
    (∃ kv ∈ c.sub.revealed, Names.commonView kv.1 = Names.commonView k ∧
      Encode.normalizeEnc (Encode.encode v.toStr) = kv.2 ∧ kv.2 = Encode.encode v.toStr ∧
      c.sub.cred.attrs.lookup kv.1 = some kv.2) ∧
    c.sub.cred.attrs.lookup (Names.commonView n) = some (Encode.encode v.toStr)

/-- the credential holds the requested attribute name `n` without revealing it -/
def HoldsAttr (ctx : Ctx) (c : Cred) (n : String) : Prop :=
  ∃ sc, ctx.schemas.lookup c.schemaId = some sc ∧ Names.hasNorm sc.attrNames n = true ∧
    Names.commonView n ∈ c.sub.cred.attrs.map Prod.fst

/-- **requested predicates**: if the W3C verifier returns `Ok(true)`, every requested predicate is
proven — the same predicate — by the sub-proof of a sound credential of the presentation that
meets the predicate's restrictions and non-revocation interval -/
theorem C01_w3c_predicates {ctx : Ctx} {r : Request} {p : Presentation}
    (h : verifyW3C ctx r p = .ok true) :
    ∀ rq ∈ r.preds, ∃ c ∈ p.creds, ProvesPred c rq.2 ∧
      conditionsOk ctx r c rq.2.restrictions rq.2.nonRevoked = true ∧ CredSound ctx c := by
  intro rq hrq
  have hrd := (verifyW3C_ok_true_iff.mp h).requestData
  obtain ⟨c, hc, a, ha, ⟨pr, hpr, h1, h2, h3⟩, hcond⟩ :=
    requestedPredicateOk_iff.mp ((requestDataOk_iff.mp hrd).2.1 rq hrq)
  have hs := credSound_of_ok h hc
  have hn := (getPredicate_some ha).2
  have hnorm := (paramsConsistent_iff.mp (ok_cred_facts h hc).1).2 pr hpr
  exact ⟨c, hc, ⟨a, ha, pr, hpr, h1, h2, h3, h1.trans hn, by rw [← hnorm, h1, hn], hs.preds_hold pr hpr⟩,
    hcond, hs⟩

/-- every name of every requested attribute is served by one credential of the presentation: revealed from it or held in it -/
theorem C01_w3c_attribute_served {ctx : Ctx} {r : Request} {p : Presentation}
    (h : verifyW3C ctx r p = .ok true) :
    ∀ ra ∈ r.attrs, ∀ n ∈ ra.2.allNames, ∃ c ∈ p.creds, (Reveals c n ∨ HoldsAttr ctx c n) ∧
      conditionsOk ctx r c ra.2.restrictions ra.2.nonRevoked = true ∧ CredSound ctx c := by
  intro ra hra n hn
  have hrd := (verifyW3C_ok_true_iff.mp h).requestData
  rcases requestedAttributeOk_cases ((requestDataOk_iff.mp hrd).1 ra hra n hn) with
    ⟨c, hc, hrev⟩ | hheld
  · obtain ⟨k, v, hg, hval, hcond⟩ := revealedBy_iff.mp hrev
    obtain ⟨⟨kv, hm, hnm, he, hl⟩, hsig⟩ := ok_revealed h hc hval
    have hkn := (getAttribute_some hg).2.1
    exact ⟨c, hc, .inl ⟨k, v, hg, hkn,
      ⟨kv, hm, hnm, (Encode.normalizeEnc_encode _).trans he.symm, he, hl⟩, hkn ▸ hsig⟩, hcond,
      credSound_of_ok h hc⟩
  · obtain ⟨c, hc, sc, hsc, hhas, hcond⟩ := heldBy_true hheld
    have hs := credSound_of_ok h hc
    obtain ⟨a, ha, han⟩ := Names.hasNorm_iff.mp hhas
    exact ⟨c, hc, .inr ⟨sc, hsc, hhas, han ▸ (hs.attrs hsc _).mp (List.mem_map_of_mem ha)⟩, hcond, hs⟩

/-- **requested attributes**: if the W3C verifier returns `Ok(true)`, every name of every
requested attribute is revealed from (with the issuer-signed value), or shown to be held in, a
sound credential of the presentation that meets the attribute's restrictions and interval -/
theorem C01_w3c_attributes {ctx : Ctx} {r : Request} {p : Presentation}
    (h : verifyW3C ctx r p = .ok true) :
    ∀ ra ∈ r.attrs, ∀ n ∈ ra.2.allNames,
      (∃ c ∈ p.creds, Reveals c n ∧
        conditionsOk ctx r c ra.2.restrictions ra.2.nonRevoked = true ∧ CredSound ctx c) ∨
      (∃ c ∈ p.creds, HoldsAttr ctx c n ∧
        conditionsOk ctx r c ra.2.restrictions ra.2.nonRevoked = true ∧ CredSound ctx c) := by
  intro ra hra n hn
  obtain ⟨c, hc, hr | hh, hcond, hs⟩ := C01_w3c_attribute_served h ra hra n hn
  · exact .inl ⟨c, hc, hr, hcond, hs⟩
  · exact .inr ⟨c, hc, hh, hcond, hs⟩

/-- **cross-request**: a presentation in which no credential carries the requested predicate — no
credential with the marker for `q.name` whose sub-proof has a predicate on that attribute with
`q`'s comparison and threshold (e.g. a presentation produced for a weaker, a different or no
predicate) — is not accepted -/
theorem C01_w3c_cross_request {ctx : Ctx} {r : Request} {p : Presentation} {rq : String × PredInfo}
    (hrq : rq ∈ r.preds)
    (hno : ∀ c ∈ p.creds, ∀ a, getPredicate c rq.2.name = some a → ∀ pr ∈ c.sub.preds,
      ¬ (Names.commonView pr.attr = Names.commonView a ∧ pr.ty = rq.2.ty ∧ pr.value = rq.2.value)) :
    verifyW3C ctx r p ≠ .ok true := by
  intro h
  obtain ⟨c, hc, ⟨a, ha, pr, hpr, h1, h2, h3, _⟩, _⟩ := C01_w3c_predicates h rq hrq
  exact hno c hc a ha pr hpr ⟨h1, h2, h3⟩

/-- the same, looking only at the sub-proofs: no sub-proof of the presentation carries a predicate
on the requested attribute with the requested comparison and threshold ⇒ not accepted (whatever
markers the holder writes into the credential subjects) -/
theorem C01_w3c_cross_request_subproof {ctx : Ctx} {r : Request} {p : Presentation}
    {rq : String × PredInfo} (hrq : rq ∈ r.preds)
    (hno : ∀ c ∈ p.creds, ∀ pr ∈ c.sub.preds,
      ¬ (Names.commonView pr.attr = Names.commonView rq.2.name ∧ pr.ty = rq.2.ty ∧
          pr.value = rq.2.value)) :
    verifyW3C ctx r p ≠ .ok true := by
  intro h
  obtain ⟨c, hc, ⟨a, _, pr, hpr, _, h2, h3, h4, _⟩, _⟩ := C01_w3c_predicates h rq hrq
  exact hno c hc pr hpr ⟨h4, h2, h3⟩

/-- **missing attribute**: a requested name that no signed credential behind the presentation has
(up to normalisation: `commonView n` is not an attribute of any `c.sub.cred`) ⇒ not accepted -/
theorem C01_w3c_missing_attribute_rejected {ctx : Ctx} {r : Request} {p : Presentation}
    {ra : String × AttrInfo} {n : String} (hra : ra ∈ r.attrs) (hn : n ∈ ra.2.allNames)
    (hno : ∀ c ∈ p.creds, Names.commonView n ∉ c.sub.cred.attrs.map Prod.fst) :
    verifyW3C ctx r p ≠ .ok true := by
  intro h
  obtain ⟨c, hc, ⟨_, _, _, _, _, hl⟩ | ⟨_, _, _, hm⟩, _⟩ := C01_w3c_attribute_served h ra hra n hn
  · exact hno c hc (List.mem_keys_of_lookup hl)
  · exact hno c hc hm

set_option maxRecDepth 100000 in
example : verifyW3C Demo.ctx Demo.req Demo.pres = .ok true ∧ Demo.req.attrs ≠ [] ∧
    Demo.req.preds ≠ [] := ⟨Demo.accepted, by decide, by decide⟩

/-- the same presentation (predicate `a ≥ 18`) against a request for `a ≥ 60`, same nonce and
referents: hypotheses of `C01_w3c_cross_request_subproof` hold -/
example :
    verifyW3C Demo.ctx
      { Demo.req with preds := [("p1", { name := "a", ty := "GE", value := 60,
                                          restrictions := none, nonRevoked := none })] }
      Demo.pres ≠ .ok true :=
  C01_w3c_cross_request_subproof
    (rq := ("p1", { name := "a", ty := "GE", value := 60, restrictions := none, nonRevoked := none }))
    (by simp) (by decide +kernel)

example :
    verifyW3C Demo.ctx
      { Demo.req with attrs := [("r1", { name := some "zz", names := none,
                                          restrictions := none, nonRevoked := none })] }
      Demo.pres ≠ .ok true :=
  C01_w3c_missing_attribute_rejected
    (ra := ("r1", { name := some "zz", names := none, restrictions := none, nonRevoked := none }))
    (n := "zz") (by simp) (by simp [AttrInfo.allNames]) (by decide +kernel)

end AnonModel.VerifierW3C
