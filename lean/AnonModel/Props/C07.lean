import AnonModel.Lemmas.ProverMaps
import AnonModel.Lemmas.ProverW3C
import AnonModel.Lemmas.VerifierW3C
/-!
# C07 — only attributes the holder chose to reveal are disclosed

Statements about the prover models `createPresentation` (legacy) and `createPresentationW3C`:
every value a presentation exposes is traced back to a referent that the holder marked as revealed
and that names the attribute the value belongs to. Values can coincide between attributes, so
"does not appear" is stated structurally (where each exposed item comes from), not on strings.
-/
namespace AnonModel.Prover
open AnonModel.Verifier AnonModel.IdealCL AnonModel.Names

/-- every (sub-proof index, value string) a legacy presentation exposes: raw and encoded values of
`revealed_attrs`, of the members of `revealed_attr_groups`, and the values carried by the equality
proof of every sub-proof. (`unrevealed_attrs`, `predicates` map referents to indices only;
predicate thresholds come from the request.) -/
def disclosedLegacy (p : Presentation) : List (Nat × String) :=
  p.revealed.flatMap (fun kv => [(kv.2.idx, kv.2.raw), (kv.2.idx, kv.2.encoded)]) ++
  p.groups.flatMap (fun kv => kv.2.values.flatMap (fun nv => [(kv.2.idx, nv.2.1), (kv.2.idx, nv.2.2)])) ++
  p.subs.zipIdx.flatMap (fun si => si.1.revealed.map (fun nv => (si.2, nv.2)))

/-- every (sub-proof index, normalised attribute name) a legacy presentation says it reveals: the
requested name of each `revealed_attrs` referent, the member names of each revealed group, the names
in the equality proof of each sub-proof -/
def disclosedNamesLegacy (r : Request) (p : Presentation) : List (Nat × String) :=
  p.revealed.flatMap (fun kv =>
    match (r.attrs.lookup kv.1).bind (·.name) with
    | some n => [(kv.2.idx, commonView n)]
    | none => []) ++
  p.groups.flatMap (fun kv => kv.2.values.map (fun nv => (kv.2.idx, commonView nv.1))) ++
  p.subs.zipIdx.flatMap (fun si => si.1.revealed.map (fun nv => (si.2, commonView nv.1)))

/-- `v` is the raw value, the encoded value, or the signed value of attribute `n` of credential `c` -/
def IsValueOf (c : HeldCred) (n v : String) : Prop :=
  (∃ re, credValue c n = some re ∧ (v = re.1 ∨ v = re.2)) ∨
  c.sym.attrs.lookup (commonView n) = some v

/-- **Everything a legacy presentation discloses was selected as revealed.** If
`create_presentation` returns `p`, every value `v` exposed at sub-proof index `i` — raw or encoded
value of a revealed attribute or revealed group member, or value carried by the `i`-th sub-proof —
is the raw/encoded/signed value of an attribute `n` of the credential of the `i`-th used selection
entry, and `n` is named by a referent of that entry which the holder marked as revealed. -/
theorem C07_legacy {pc : PCtx} {r : Request} {sel : List Selected} {sa : List (String × String)}
    {holder session uid0 : Nat} {p : Presentation}
    (h : createPresentation pc r sel sa holder session uid0 = some p) {i : Nat} {v : String}
    (hd : (i, v) ∈ disclosedLegacy p) :
    ∃ s n, (usedOf sel)[i]? = some s ∧ MarkedRevealed r s.attrs n ∧ IsValueOf s.cred n v := by
  have ch := createPresentation_char h
  unfold disclosedLegacy at hd
  rw [List.mem_append, List.mem_append] at hd
  rcases hd with (hd | hd) | hd
  · obtain ⟨⟨k, info⟩, hk, hv⟩ := List.mem_flatMap.mp hd
    obtain ⟨s, j, ai, name, re, hs, hrr, hlk, hname, hcv, rfl⟩ := ch.mem_revealed.mp hk
    simp only [List.mem_cons, Prod.mk.injEq, List.not_mem_nil, or_false, ← and_or_left] at hv
    obtain ⟨rfl, hv'⟩ := hv
    exact ⟨s, name, hs, .single hrr hlk hname, Or.inl ⟨re, hcv, hv'⟩⟩
  · obtain ⟨⟨k, g⟩, hk, hv⟩ := List.mem_flatMap.mp hd
    obtain ⟨s, j, ai, names, vals, hs, hrr, hlk, _, hnames, hvals, rfl⟩ := ch.mem_groups.mp hk
    obtain ⟨⟨n, re⟩, hnv, hv⟩ := List.mem_flatMap.mp hv
    obtain ⟨hn, hcv⟩ := (List.mapM_pair_mem hvals).mp hnv
    simp only [List.mem_cons, Prod.mk.injEq, List.not_mem_nil, or_false, ← and_or_left] at hv
    obtain ⟨rfl, hv'⟩ := hv
    exact ⟨s, n, hs, .member hrr hlk hnames (List.mem_eraseDups.mp hn), Or.inl ⟨re, hcv, hv'⟩⟩
  · obtain ⟨⟨sub, j⟩, hsub, hv⟩ := List.mem_flatMap.mp hd
    obtain ⟨⟨n, v'⟩, hnv, hv⟩ := List.mem_map.mp hv
    cases hv
    obtain ⟨s, hs, sb⟩ := ch.sub_inv (List.mem_zipIdx_iff_getElem?.mp hsub)
    obtain ⟨⟨n0, hmr, rfl⟩, hl⟩ := sb.mem_revealed.mp hnv
    exact ⟨s, n0, hs, hmr, Or.inr hl⟩

/-- the same at the level of names: every attribute name a legacy presentation says it reveals at
sub-proof index `i` is (the normal form of) a name asked for by a referent of the `i`-th used entry
that the holder marked as revealed -/
theorem C07_legacy_names {pc : PCtx} {r : Request} {sel : List Selected} {sa : List (String × String)}
    {holder session uid0 : Nat} {p : Presentation}
    (h : createPresentation pc r sel sa holder session uid0 = some p) {i : Nat} {a : String}
    (hd : (i, a) ∈ disclosedNamesLegacy r p) :
    ∃ s n, (usedOf sel)[i]? = some s ∧ MarkedRevealed r s.attrs n ∧ commonView n = a := by
  have ch := createPresentation_char h
  unfold disclosedNamesLegacy at hd
  rw [List.mem_append, List.mem_append] at hd
  rcases hd with (hd | hd) | hd
  · obtain ⟨⟨k, info⟩, hk, hv⟩ := List.mem_flatMap.mp hd
    obtain ⟨s, j, ai, name, re, hs, hrr, hlk, hname, _, rfl⟩ := ch.mem_revealed.mp hk
    simp [hlk, hname] at hv
    obtain ⟨rfl, rfl⟩ := hv
    exact ⟨s, name, hs, .single hrr hlk hname, rfl⟩
  · obtain ⟨⟨k, g⟩, hk, hv⟩ := List.mem_flatMap.mp hd
    obtain ⟨s, j, ai, names, vals, hs, hrr, hlk, _, hnames, hvals, rfl⟩ := ch.mem_groups.mp hk
    obtain ⟨⟨n, re⟩, hnv, hv⟩ := List.mem_map.mp hv
    cases hv
    exact ⟨s, n, hs, .member hrr hlk hnames (List.mem_eraseDups.mp ((List.mapM_pair_mem hvals).mp hnv).1), rfl⟩
  · obtain ⟨⟨sub, j⟩, hsub, hv⟩ := List.mem_flatMap.mp hd
    obtain ⟨⟨n, v'⟩, hnv, hv⟩ := List.mem_map.mp hv
    cases hv
    obtain ⟨s, hs, sb⟩ := ch.sub_inv (List.mem_zipIdx_iff_getElem?.mp hsub)
    obtain ⟨⟨n0, hmr, rfl⟩, _⟩ := sb.mem_revealed.mp hnv
    exact ⟨s, n0, hs, hmr, (Names.commonView_idem n0).symm⟩


/-- **Attributes not named by any revealed referent stay hidden.** If no referent of the `i`-th used
entry that the holder marked as revealed names attribute `a` (up to normalisation) — because the
attribute is not requested at all, requested but left unrevealed, or used only in predicates — the
presentation does not list `a` among the names revealed at index `i`: not as the name of a revealed
referent, not as a group member, not in the sub-proof's equality proof. -/
theorem C07_legacy_unrequested_hidden {pc : PCtx} {r : Request} {sel : List Selected}
    {sa : List (String × String)} {holder session uid0 : Nat} {p : Presentation}
    (h : createPresentation pc r sel sa holder session uid0 = some p) {i : Nat} {s : Selected}
    (hs : (usedOf sel)[i]? = some s) {a : String}
    (hno : ∀ n, commonView n = a → ¬ MarkedRevealed r s.attrs n) :
    (i, a) ∉ disclosedNamesLegacy r p := by
  intro hd
  obtain ⟨s', n, hs', hm, hn⟩ := C07_legacy_names h hd
  rw [hs] at hs'; cases hs'
  exact hno n hn hm

/-- **An unrevealed referent contributes its referent and sub-proof index only.** For a referent the
holder marked `false` in the `i`-th used entry: it is a key of neither `revealed_attrs` nor
`revealed_attr_groups`; `unrevealed_attrs` maps it to `i` and to nothing else; what
`update_requested_proof` adds for it is exactly `(ref, i)`; and the sub-proof is the one built from the
revealed referents alone (it does not depend on the unrevealed ones at all). -/
theorem C07_legacy_unrevealed_hidden {pc : PCtx} {r : Request} {sel : List Selected}
    {sa : List (String × String)} {holder session uid0 : Nat} {p : Presentation}
    (h : createPresentation pc r sel sa holder session uid0 = some p) {i : Nat} {s : Selected}
    (hs : (usedOf sel)[i]? = some s) {ref : String} (hf : (ref, false) ∈ s.attrs) :
    ref ∉ p.revealed.map Prod.fst ∧ ref ∉ p.groups.map Prod.fst ∧
    (∀ j, (ref, j) ∈ p.unrevealed ↔ j = i) ∧
    rpEntry r s.cred i (ref, false) = some { RpPart.empty with unrevealed := [(ref, i)] } ∧
    ∀ uid, addSubProof pc r s holder session uid =
      addSubProof pc r { s with attrs := s.attrs.filter (·.2) } holder session uid := by
  have ch := createPresentation_char h
  obtain ⟨hu, hr, hg⟩ := ch.lookup_unrevealed hs hf
  refine ⟨List.lookup_eq_none_iff_not_mem_keys.mp hr, List.lookup_eq_none_iff_not_mem_keys.mp hg,
    fun j => ⟨fun hj => Option.some.inj ((List.lookup_of_mem_nodup ch.unrevealed_nodup hj).symm.trans hu),
      fun e => e ▸ ch.mem_unrevealed.mpr ⟨s, hs, hf⟩⟩, rfl, fun uid => ?_⟩
  unfold addSubProof
  simp only [List.filter_filter, Bool.and_self]

/-- **An attribute used only in a predicate stays hidden.** For a predicate referent `ref` of the
`i`-th used entry: the request has it (predicate `q`), `predicates` maps it to `i`; no referent of
that entry marked as revealed names the predicate's attribute (the CL crate refuses to build such a
sub-proof), hence the presentation does not list that attribute among the names revealed at `i`. What
the presentation carries about it is the triple (name, type, threshold) — all taken from the request. -/
theorem C07_legacy_predicate_hidden {pc : PCtx} {r : Request} {sel : List Selected}
    {sa : List (String × String)} {holder session uid0 : Nat} {p : Presentation}
    (h : createPresentation pc r sel sa holder session uid0 = some p) {i : Nat} {s : Selected}
    (hs : (usedOf sel)[i]? = some s) {ref : String} (hp : ref ∈ s.preds) :
    ∃ q, r.preds.lookup ref = some q ∧ (ref, i) ∈ p.predicates ∧
      (∀ n, commonView n = commonView q.name → ¬ MarkedRevealed r s.attrs n) ∧
      (i, commonView q.name) ∉ disclosedNamesLegacy r p ∧
      ∃ sub, p.subs[i]? = some sub ∧ normPred (predOfInfo q) ∈ sub.preds := by
  have ch := createPresentation_char h
  obtain ⟨sub, hsub, sb⟩ := ch.sub_of hs
  obtain ⟨q, hq⟩ := sb.predsRequested hp
  have hno := fun n => sb.pred_not_revealed hp hq (n := n)
  exact ⟨q, hq, ch.mem_predicates.mpr ⟨s, hs, hp⟩, hno, C07_legacy_unrequested_hidden h hs hno, sub, hsub,
    sb.pred_of hp hq⟩

section W3C
open AnonModel.VerifierW3C

/-- **Everything a W3C presentation discloses was selected as revealed.** If the W3C
`create_presentation` returns `p`, then for its `i`-th derived credential `c`, built from the `i`-th
used selection entry `s`:
* every entry of `c`'s subject is either the held credential's own entry (key and value) for an
  attribute named by a referent of `s` that the holder marked as revealed, or the marker `true` under
  the held credential's key of the attribute of a predicate referent of `s`;
* every (name, value) in the equality proof of `c`'s sub-proof is the normal form of a name asked for
  by a referent marked revealed, with the signed value. -/
theorem C07_w3c {pc : PCtx} {r : Request} {sel : List SelectedW3C} {holder session uid0 : Nat}
    {p : VerifierW3C.Presentation} (h : createPresentationW3C pc r sel holder session uid0 = some p)
    {i : Nat} {c : Cred} (hc : p.creds[i]? = some c) :
    ∃ s, (usedOfW3C sel)[i]? = some s ∧
      (∀ kv ∈ c.subject, SubjectEntryJustified r s kv) ∧
      (∀ n v, (n, v) ∈ c.sub.revealed → ∃ n0, MarkedRevealed r s.attrs n0 ∧ commonView n0 = n ∧
        s.cred.sym.attrs.lookup n = some v) := by
  obtain ⟨s, sub, subj, hs, hadd, hbuild, rfl⟩ := (createPresentationW3C_char h).cred i c hc
  refine ⟨s, hs, buildCredentialAttributes_justified hbuild, ?_⟩
  intro n v hnv
  obtain ⟨⟨n0, hm, e⟩, hl⟩ := (addSubProof_char hadd).mem_revealed.mp hnv
  exact ⟨n0, hm, e, hl⟩

/-- string and number entries of a derived credential's subject belong to attributes named by
referents the holder marked as revealed: the entry is the held credential's own entry for such a name -/
theorem C07_w3c_values {pc : PCtx} {r : Request} {sel : List SelectedW3C} {holder session uid0 : Nat}
    {p : VerifierW3C.Presentation} (h : createPresentationW3C pc r sel holder session uid0 = some p)
    {i : Nat} {c : Cred} (hc : p.creds[i]? = some c) {k : String} {v : SubjVal}
    (hkv : (k, v) ∈ c.subject) (hv : ∀ b, v ≠ .bool b) :
    ∃ s n, (usedOfW3C sel)[i]? = some s ∧ MarkedRevealed r s.attrs n ∧
      lookupNorm s.cred.subject n = some (k, v) := by
  obtain ⟨s, hs, hj, _⟩ := C07_w3c h hc
  rcases hj (k, v) hkv with ⟨n, hm, hl⟩ | ⟨hb, _⟩
  · exact ⟨s, n, hs, hm, hl⟩
  · exact absurd hb (hv true)

/-- boolean markers are only put for predicate attributes: if the held credential has no boolean
values of its own, every boolean entry of the derived subject is `true` under the held credential's
key of the attribute of a predicate referent served by the entry -/
theorem C07_w3c_markers {pc : PCtx} {r : Request} {sel : List SelectedW3C} {holder session uid0 : Nat}
    {p : VerifierW3C.Presentation} (h : createPresentationW3C pc r sel holder session uid0 = some p)
    {i : Nat} {c : Cred} (hc : p.creds[i]? = some c) {k : String} {b : Bool}
    (hkv : (k, .bool b) ∈ c.subject) :
    ∃ s, (usedOfW3C sel)[i]? = some s ∧
      ((∀ kv ∈ s.cred.subject, ∀ b', kv.2 ≠ .bool b') →
        b = true ∧ ∃ ref q v, ref ∈ s.preds ∧ r.preds.lookup ref = some q ∧
          lookupNorm s.cred.subject q.name = some (k, v)) := by
  obtain ⟨s, hs, hj, _⟩ := C07_w3c h hc
  refine ⟨s, hs, fun hnb => ?_⟩
  rcases hj (k, .bool b) hkv with ⟨n, _, hl⟩ | ⟨hb, hex⟩
  · exact absurd rfl (hnb _ (Names.lookupNorm_some hl).1 b)
  · simp at hb
    exact ⟨hb, hex⟩

/-- **Members of an unrevealed group are not in the subject** (/repo fix commit e2d1585; F8 of DESIGN §7
was their disclosure). If no referent of
the `i`-th used entry that the holder marked as revealed names attribute `n` — e.g. `n` is a member
of a `names` group the holder left unrevealed — then the derived credential has no string or number
entry for `n`: `W3CCredential::get_attribute` finds nothing. -/
theorem C07_w3c_unrevealed_group_hidden {pc : PCtx} {r : Request} {sel : List SelectedW3C}
    {holder session uid0 : Nat} {p : VerifierW3C.Presentation}
    (h : createPresentationW3C pc r sel holder session uid0 = some p)
    {i : Nat} {c : Cred} (hc : p.creds[i]? = some c) {s : SelectedW3C}
    (hs : (usedOfW3C sel)[i]? = some s) {n : String}
    (hno : ∀ n', commonView n' = commonView n → ¬ MarkedRevealed r s.attrs n') :
    getAttribute c n = none := by
  cases hg : getAttribute c n with
  | none => rfl
  | some av =>
    obtain ⟨hmem, hcv, hnb⟩ := getAttribute_some (k := av.1) (v := av.2) hg
    obtain ⟨s', n', hs', hm, hl⟩ := C07_w3c_values h hc hmem hnb
    rw [hs] at hs'; cases hs'
    exact absurd hm (hno n' ((Names.lookupNorm_some hl).2.symm.trans hcv))

/-- `attrStep` form of the same: a referent marked `false` adds nothing to the subject -/
theorem C07_w3c_unrevealed_adds_nothing {r : Request} {c : HeldW3C} {ref : String}
    {subj subj' : List (String × SubjVal)} (h : attrStep r c subj (ref, false) = some subj') :
    subj' = subj := by
  obtain ⟨_, _, _, hf, _⟩ := attrStep_some h
  exact hf rfl

end W3C

/-- the part of a sub-proof that service code (and the wire form) exposes: revealed names and values,
and predicates; the other fields of `SymSub` are ghosts for the ideal functionality -/
def visibleSub (s : SymSub) : List (String × String) × List Pred := (s.revealed, s.preds)

/-- **The link secret, the credential signature and the revocation witness are not in a
presentation.** By construction: `Presentation`, `VerifierW3C.Presentation`/`Cred` and `SymSub` have
no field for any of them — the three equations list *all* their fields (`cred`, `nrp`, `ms`, `intact`,
`uid` of a sub-proof are ghosts read only by the ideal functionality: they say what the zero-knowledge
proof was built from, they are not data one can read off it). What the model can state beyond that:
the visible part of a presentation does not depend on the holder's link secret, the session's blinding
or the numbering of the sub-proofs — building it with other ones succeeds too and yields the same
`requested_proof`, identifiers, and revealed values / predicates of every sub-proof. The real check of
this clause is the harness scan of serialised presentations for the secret values. -/
theorem C07_no_secrets :
    (∀ p : Verifier.Presentation, p = ⟨p.revealed, p.groups, p.selfAttested, p.unrevealed, p.predicates,
      p.identifiers, p.subs, p.agg⟩) ∧
    (∀ c : VerifierW3C.Cred, c = ⟨c.issuer, c.subject, c.proofOk, c.verificationMethod, c.schemaId, c.credDefId,
      c.revRegId, c.timestamp, c.sub⟩) ∧
    (∀ s : SymSub, s = ⟨s.revealed, s.preds, s.cred, s.nrp, s.ms, s.intact, s.uid⟩) ∧
    (∀ {pc : PCtx} {r : Request} {sel : List Selected} {sa : List (String × String)}
      {holder session uid0 : Nat} {p : Verifier.Presentation} (holder' session' uid0' : Nat),
      createPresentation pc r sel sa holder session uid0 = some p →
      ∃ p', createPresentation pc r sel sa holder' session' uid0' = some p' ∧
        p'.revealed = p.revealed ∧ p'.groups = p.groups ∧ p'.selfAttested = p.selfAttested ∧
        p'.unrevealed = p.unrevealed ∧ p'.predicates = p.predicates ∧
        p'.identifiers = p.identifiers ∧ p'.subs.map visibleSub = p.subs.map visibleSub) := by
  refine ⟨fun _ => rfl, fun _ => rfl, fun _ => rfl, ?_⟩
  intro pc r sel sa holder session uid0 p holder' session' uid0' h
  -- the call under the other parameters is unfolded first: comparing it with the one `fun_cases` abstracts is slow
  rw [createPresentation]
  revert h
  fun_cases createPresentation pc r sel sa holder session uid0 <;> intro h <;> cases h
  -- the one case that returns: neither guard fires (`h1`, `h2`), both `mapM`s succeed (`hp : … = some parts`, `hs : … = some subs`)
  rename_i h1 h2 _ parts subs hs hp
  obtain ⟨subs', hs', hvis⟩ := List.mapM_indep (vis := visibleSub)
    (f' := fun si : Selected × Nat => addSubProof pc r si.1 holder' session' (uid0' + si.2))
    (fun si => ⟨fun sub => { sub with ms := (holder', session'), uid := uid0' + si.2 },
      addSubProof_indep .., fun _ => rfl⟩) hs
  simp only []
  rw [if_neg h1, if_neg h2, hp, hs']
  exact ⟨_, rfl, rfl, rfl, rfl, rfl, rfl, rfl, hvis⟩

/-! ## non-vacuity: a small concrete flow

Credential `a ↦ 25`, `b ↦ 7` (encoding carried as `"007"`), `cd ↦ 3`; the holder reveals `b` (single)
and the group `b`, `c D`, leaves `a` unrevealed and proves `a ≥ 18`. The presentation exposes `7`,
`007`, `3` at index 0 — and nothing of `a` (value `25`). -/
section Examples
private def xSym : SymCred := { key := 1, attrs := [("a", "25"), ("b", "7"), ("cd", "3")], holder := 5, rev := none }
private def xCred : HeldCred :=
  { schemaId := "s1", credDefId := "cd1", revRegId := none,
    values := [("A", ("25", "25")), ("b", ("7", "007")), ("C d", ("3", "3"))], sym := xSym }
private def xReq : Request :=
  { nonce := "n", nonRevoked := none,
    attrs := [("r1", { name := some "B", names := none, restrictions := none, nonRevoked := none }),
              ("r2", { name := some " a", names := none, restrictions := none, nonRevoked := none }),
              ("g1", { name := none, names := some ["b", "c D"], restrictions := none, nonRevoked := none })],
    preds := [("p1", { name := "A", ty := "GE", value := 18, restrictions := none, nonRevoked := none })] }
private def xSel : List Selected :=
  [{ cred := xCred, timestamp := none, revState := none,
     attrs := [("r1", true), ("r2", false), ("g1", true)], preds := ["p1"] }]
private def xPc : PCtx := { schemas := [("s1", ["a", "B", "c D"])], credDefs := ["cd1"] }
private def xSelW : List SelectedW3C :=
  [{ cred := { issuer := "iss", schemaId := "s1", credDefId := "cd1", revRegId := none,
               subject := [("A", .num 25), ("b", .str "7"), ("C d", .str "3")], sym := xSym },
     timestamp := none, revState := none,
     attrs := [("r1", true), ("r2", false), ("g1", true)], preds := ["p1"] }]

set_option maxRecDepth 100000 in
example : (createPresentation xPc xReq xSel [] 5 1 0).map disclosedLegacy =
    some [(0, "7"), (0, "007"), (0, "7"), (0, "007"), (0, "3"), (0, "3"), (0, "7"), (0, "3")] := by decide +kernel
set_option maxRecDepth 100000 in
example : (createPresentation xPc xReq xSel [] 5 1 0).map (disclosedNamesLegacy xReq) =
    some [(0, "b"), (0, "b"), (0, "cd"), (0, "b"), (0, "cd")] := by decide +kernel
set_option maxRecDepth 100000 in
example : (createPresentation xPc xReq xSel [] 5 1 0).map (fun p => (p.unrevealed, p.predicates)) =
    some ([("r2", 0)], [("p1", 0)]) := by decide +kernel
set_option maxRecDepth 100000 in
example : (createPresentationW3C xPc xReq xSelW 5 1 0).map (fun p => p.creds.map (·.subject)) =
    some [[("b", .str "7"), ("C d", .str "3"), ("A", .bool true)]] := by decide +kernel
-- with the group left unrevealed (F8): only the single `b`
set_option maxRecDepth 100000 in
example : (createPresentationW3C xPc xReq
      (xSelW.map (fun s => { s with attrs := [("r1", true), ("r2", false), ("g1", false)] })) 5 1 0).map
      (fun p => p.creds.map (·.subject)) =
    some [[("b", .str "7"), ("A", .bool true)]] := by decide +kernel
end Examples

end AnonModel.Prover
