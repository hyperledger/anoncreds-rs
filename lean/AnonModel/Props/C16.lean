import AnonModel.Lemmas.MapM
import AnonModel.Lemmas.Query
/-!
# C16 — restriction syntax parses, prints and validates consistently

Statement: "Parsing a restriction, serialising it and parsing it again yields the same
query; the legacy list-of-filters form means the disjunction of its non-empty filters and
empty forms mean 'no restriction'; malformed restrictions (wrong operand types, unknown
operators, multi-key operator objects) are rejected with an error rather than accepted or
crashing; and version-1 requests are refused by validation when identifier tags carry fully
qualified identifiers."

*Totality* ("rather than crashing") is by construction: `parseRestriction`, `print`,
`validateQuery`, `validateRequest` are total Lean functions defined by structural
recursion, and every Rust `Err` is an explicit `none`; there is no `unwrap`/index on a path
that the model totalises (`map.into_iter().next().unwrap()` in `parse_operator` is guarded
by `map.len() == 1`, the pattern `[(op, x)]` here).

JSON objects are association lists iterated in list order; no theorem below needs the
keys to be sorted or unique.
-/
namespace AnonModel.Query
open AnonModel.Json

/-! ## parse ∘ print ∘ parse = parse -/

/-- everything the parser returns satisfies the invariant `Good` (`Lemmas/Query.lean`):
no `or []`, no `exist []`, and no leaf whose tag is `$and`, `$or`, `$not` or `$exist` -/
theorem C16_parsed_good {j : Json} {q : Query} (h : parseRestriction j = some q) : Good q :=
  parseRestriction_good h

/-- on `Good` queries printing is a right inverse of parsing -/
theorem C16_print_parse_of_good {q : Query} (h : Good q) : parseRestriction (print q) = some q :=
  parse_print_of_good q h

/-- **round trip**: for every JSON value whatsoever, if it parses to `q` then the
serialisation of `q` parses to `q` again -/
theorem C16_parse_print_parse {j : Json} {q : Query} (h : parseRestriction j = some q) :
    parseRestriction (print q) = some q :=
  parse_print_of_good q (parseRestriction_good h)

/-- the restriction to parser outputs is necessary: queries which only Rust code can
build (never the parser) do not survive serialisation — `Or([])` (never satisfied) comes
back as `And([])` (always satisfied), `Exist([])` comes back as `And([])`, a leaf on the
tag `$and` does not parse, a `$neq` leaf on the tag `$not` comes back as a negated
equality on the tag `$neq`. -/
theorem C16_print_parse_outside_image :
    parseRestriction (print (.or [])) = some (.and []) ∧
    parseRestriction (print (.exist [])) = some (.and []) ∧
    parseRestriction (print (.eq "$and" "x")) = none ∧
    parseRestriction (print (.neq "$not" "x")) = some (.not (.eq "$neq" "x")) :=
  ⟨rfl, rfl, rfl, rfl⟩

/-- what `to_value` produces is a JSON object whose objects all have strictly increasing
(hence unique) keys — trivially: each has at most one key — so the association-list
reading of the printed value is the `BTreeMap` reading -/
theorem C16_print_wellformed (q : Query) : (∃ m, print q = .obj m) ∧ (print q).WF = true :=
  ⟨print_isObj q, print_wf q⟩

/-! ## what parses: the grammar, and the parser accepts exactly it -/

/-- `WQLEntry k v`: the entry `k: v` of a query object is well formed.
`reserved = ["$and","$or","$not","$exist"]`, `cmpOps = ["$neq","$gt","$gte","$lt","$lte","$like"]`. -/
inductive WQLEntry : String → Json → Prop
  /-- `"$and": [ {…}, … ]` — every member a well-formed query object (`[]` allowed) -/
  | and {vs : List Json} : AllObj vs →
      (∀ m, Json.obj m ∈ vs → ∀ kv ∈ m, WQLEntry kv.1 kv.2) → WQLEntry "$and" (.arr vs)
  /-- `"$or": [ {…}, … ]` -/
  | or {vs : List Json} : AllObj vs →
      (∀ m, Json.obj m ∈ vs → ∀ kv ∈ m, WQLEntry kv.1 kv.2) → WQLEntry "$or" (.arr vs)
  /-- `"$not": {…}` -/
  | not {m : List (String × Json)} : (∀ kv ∈ m, WQLEntry kv.1 kv.2) → WQLEntry "$not" (.obj m)
  /-- `"$exist": "name"` -/
  | existStr {s : String} : WQLEntry "$exist" (.str s)
  /-- `"$exist": ["name", …]` -/
  | existArr {vs : List Json} : AllStr vs → WQLEntry "$exist" (.arr vs)
  /-- `"tag": "value"` -/
  | eq {k s : String} : k ∉ reserved → WQLEntry k (.str s)
  /-- `"tag": {"$neq"|"$gt"|"$gte"|"$lt"|"$lte"|"$like": "value"}` -/
  | cmp {k op s : String} : k ∉ reserved → op ∈ cmpOps → WQLEntry k (.obj [(op, .str s)])
  /-- `"tag": {"$in": ["value", …]}` -/
  | isIn {k : String} {vs : List Json} : k ∉ reserved → AllStr vs →
      WQLEntry k (.obj [("$in", .arr vs)])

/-- a well-formed query object: every entry is well formed (`{}` included) -/
def WQLObject (m : List (String × Json)) : Prop := ∀ kv ∈ m, WQLEntry kv.1 kv.2

/-- a well-formed restriction: a query object, or a (legacy) array of objects each of
which is a well-formed query object once its null-valued entries are removed -/
inductive WQL : Json → Prop
  | obj {m : List (String × Json)} : WQLObject m → WQL (.obj m)
  | legacy {vs : List Json} : AllObj vs →
      (∀ m, Json.obj m ∈ vs → WQLObject (dropNulls m)) → WQL (.arr vs)

private theorem entry_ok_of_wql {k : String} {j : Json} (h : WQLEntry k j) :
    (parseOperator k j).isSome := by
  induction h <;> rw [parseOperator_isSome_iff]
  case and hobj _ ih | or hobj _ ih =>
    exact .inl ⟨by simp, (parseListOperators_isSome_iff _).mpr
      ⟨hobj, fun m hm => (parseEntries_isSome_iff m).mpr (ih m hm)⟩⟩
  case not ih => exact .inl ⟨rfl, (parseEntries_isSome_iff _).mpr ih⟩
  case existStr => simp
  case existArr hs => exact .inr ⟨rfl, hs⟩
  case eq hk => exact have h := not_reserved_iff.mp hk; ⟨h.1, h.2.1, h.2.2.1⟩
  case cmp hk hop =>
    exact .inr ⟨hk, _, _, rfl, (parseSingleOperator_isSome_iff _ _ _).mpr (.inl ⟨hop, _, rfl⟩)⟩
  case isIn hk hs =>
    exact .inr ⟨hk, _, _, rfl, (parseSingleOperator_isSome_iff _ _ _).mpr (.inr ⟨rfl, _, rfl, hs⟩)⟩

/-- what parses is well formed: one line per branch that returns something -/
private theorem parse_wql :
    (∀ k j, ∀ o, parseOperator k j = some o → WQLEntry k j) ∧
    (∀ m, ∀ ops, parseEntries m = some ops → ∀ kv ∈ m, WQLEntry kv.1 kv.2) ∧
    (∀ vs, ∀ l, parseListOperators vs = some l →
      AllObj vs ∧ ∀ m, Json.obj m ∈ vs → ∀ kv ∈ m, WQLEntry kv.1 kv.2) :=
  parse_induct
    (and_nil := .and nofun nofun) (and := fun _ _ _ _ h => .and h.1 h.2)
    (or_nil := .or nofun nofun) (or := fun _ _ _ _ h => .or h.1 h.2)
    (exist_nil := .existArr nofun)
    (exist := fun vs _ _ h => .existArr ((strList?_isSome_iff vs).mp (by simp [h])))
    (not := fun _ _ _ h => .not h)
    (cmp := fun k op x _ hk h => by
      obtain ⟨hop, s, rfl⟩ | ⟨rfl, vs, rfl, hs⟩ :=
        (parseSingleOperator_isSome_iff op k x).mp (by simp [h])
      · exact .cmp hk hop
      · exact .isIn hk hs)
    (exist_str := fun _ => .existStr) (eq := fun _ _ hk => .eq hk)
    (lnil := ⟨nofun, nofun⟩)
    (lcons := fun m _ _ _ _ _ h1 h2 =>
      ⟨List.forall_mem_cons.mpr ⟨⟨m, rfl⟩, h2.1⟩, fun m' hm' => by
        obtain e | hr := List.mem_cons.mp hm'
        · cases e; exact h1
        · exact h2.2 m' hr⟩)
    (nil := nofun) (cons := fun _ _ _ _ _ _ _ h1 h2 => List.forall_mem_cons.mpr ⟨h1, h2⟩)

private theorem wql_of_entries_ok : ∀ (m : List (String × Json)), (parseEntries m).isSome →
    ∀ kv ∈ m, WQLEntry kv.1 kv.2 :=
  fun m h => have ⟨ops, ho⟩ := Option.isSome_iff_exists.mp h; parse_wql.2.1 m ops ho

private theorem wql_of_list_ok : ∀ (vs : List Json), (parseListOperators vs).isSome →
    ∀ m, Json.obj m ∈ vs → ∀ kv ∈ m, WQLEntry kv.1 kv.2 :=
  fun vs h => have ⟨l, ho⟩ := Option.isSome_iff_exists.mp h; (parse_wql.2.2 vs l ho).2

/-- `parse_operator` succeeds on exactly the well-formed entries -/
theorem C16_entry_ok_iff_wellformed (k : String) (v : Json) :
    (∃ o, parseOperator k v = some o) ↔ WQLEntry k v :=
  ⟨fun ⟨o, h⟩ => parse_wql.1 k v o h, fun h => Option.isSome_iff_exists.mp (entry_ok_of_wql h)⟩

/-- `parse_query` succeeds on exactly the well-formed query objects -/
theorem C16_object_ok_iff_wellformed (m : List (String × Json)) :
    (∃ q, parseQuery m = some q) ↔ WQLObject m := by
  rw [← Option.isSome_iff_exists, parseQuery_isSome_iff]
  exact ⟨wql_of_entries_ok m, fun h => (parseEntries_isSome_iff m).mpr fun kv hkv =>
    entry_ok_of_wql (h kv hkv)⟩

/-- the filters of a legacy list that count: null-valued entries removed, then the
filters left empty dropped -/
def legacyClean (ms : List (List (String × Json))) : List (List (String × Json)) :=
  (ms.map dropNulls).filter (fun m => !m.isEmpty)

private theorem legacyFilters_objs (ms : List (List (String × Json))) :
    legacyFilters (ms.map Json.obj) = some ((legacyClean ms).map Json.obj) := by
  induction ms with
  | nil => simp [legacyFilters, legacyClean]
  | cons m r ih =>
    simp only [List.map_cons, legacyFilters, ih]
    by_cases h : (dropNulls m).isEmpty = true <;> simp_all [legacyClean]

private theorem parseListOperators_objs (fs : List (List (String × Json))) :
    parseListOperators (fs.map Json.obj) = fs.mapM parseQuery := by
  rw [parseListOperators_eq_mapM, List.mapM_map]; rfl

private theorem allObj_iff_map (a : List Json) : AllObj a ↔ ∃ ms : List (List (String × Json)), a = ms.map Json.obj := by
  refine ⟨fun h => ?_, fun ⟨ms, e⟩ j hj => ?_⟩
  · induction a with
    | nil => exact ⟨[], rfl⟩
    | cons j r ih =>
      obtain ⟨m, rfl⟩ := h j (by simp)
      obtain ⟨ms, rfl⟩ := ih fun j hj => h j (by simp [hj])
      exact ⟨m :: ms, rfl⟩
  · obtain ⟨m, _, rfl⟩ := List.mem_map.mp (e ▸ hj)
    exact ⟨m, rfl⟩

private theorem legacyFilters_isSome_iff (a : List Json) : (legacyFilters a).isSome ↔ AllObj a := by
  fun_induction legacyFilters a <;> simp_all [AllObj]

/-- **legacy list, exactly**: for a list of objects let `fs` be the filters with their
null-valued entries removed and the then-empty ones dropped. If `fs` is empty the result
is `And([])`; otherwise every member of `fs` is parsed as a query object and the result is
`Or` of the parsed filters (an error if one of them fails). -/
theorem C16_legacy_array (ms : List (List (String × Json))) :
    parseRestriction (.arr (ms.map Json.obj)) =
      match legacyClean ms with
      | [] => some (.and [])
      | fs => (fs.mapM parseQuery).map Query.or := by
  simp only [parseRestriction, legacyFilters_objs]
  cases h : legacyClean ms with
  | nil => rfl
  | cons m r =>
    simp only [parseQuery, parseEntries, parseOperator, List.map_cons, List.isEmpty_cons,
      if_true, if_false, Bool.false_eq_true]
    rw [← List.map_cons, parseListOperators_objs]
    cases List.mapM parseQuery (m :: r) <;> simp [finish]

/-- a legacy list with a member which is not an object is rejected -/
theorem C16_legacy_nonobject_rejected {a : List Json} {j : Json} (hj : j ∈ a)
    (hno : ∀ m, j ≠ Json.obj m) : parseRestriction (.arr a) = none := by
  have : legacyFilters a = none := by
    rw [← Option.not_isSome_iff_eq_none, legacyFilters_isSome_iff]
    exact fun h => have ⟨m, e⟩ := h j hj; hno m e
  simp [parseRestriction, this]

/-- **a one-filter list is not unwrapped**: `[f]` with `f` non-empty after null removal
parses to `Or([parse f])`, not to `parse f` (the unwrapping in `parse_query` applies to the
outer vector `[Or(..)]`, not to the members of the `$or`) -/
theorem C16_legacy_singleton (m : List (String × Json)) (h : dropNulls m ≠ []) :
    parseRestriction (.arr [.obj m]) = (parseQuery (dropNulls m)).map (fun q => .or [q]) := by
  have := C16_legacy_array [m]
  have hc : legacyClean [m] = [dropNulls m] := by simp [legacyClean, h]
  simp only [List.map_cons, List.map_nil, hc, List.mapM_cons, List.mapM_nil] at this
  rw [this]
  cases parseQuery (dropNulls m) <;> rfl

/-- **meaning of the legacy list** under the evaluation of C06: no restriction when no
non-empty filter is left, otherwise the disjunction of the filters -/
theorem C16_legacy_meaning (ld : String → Bool) (vals : List (String × Option String)) (f : Filter)
    (ms : List (List (String × Json))) (qs : List Query)
    (hqs : (legacyClean ms).mapM parseQuery = some qs) :
    ∃ q, parseRestriction (.arr (ms.map Json.obj)) = some q ∧
      eval ld vals f q = (if legacyClean ms = [] then true else qs.any (eval ld vals f)) := by
  rw [C16_legacy_array]
  cases hc : legacyClean ms with
  | nil => exact ⟨.and [], rfl, by simp [eval, evalAll]⟩
  | cons m r =>
    rw [hc] at hqs
    exact ⟨.or qs, by simp [hqs], by simp [eval, evalAny_eq]⟩

/-- **parse succeeds ↔ well formed**: `Deserialize for Query` returns `Ok` on exactly the
values described by the grammar `WQL` -/
theorem C16_parse_ok_iff_wellformed (j : Json) : (∃ q, parseRestriction j = some q) ↔ WQL j := by
  cases j with
  | obj m =>
    simp only [parseRestriction, C16_object_ok_iff_wellformed]
    exact ⟨WQL.obj, fun | .obj h => h⟩
  | arr a =>
    by_cases ha : AllObj a
    · obtain ⟨ms, rfl⟩ := (allObj_iff_map a).mp ha
      have hw : WQL (.arr (ms.map Json.obj)) ↔ ∀ m ∈ ms, WQLObject (dropNulls m) :=
        ⟨fun | .legacy _ h => fun m hm => h m (List.mem_map_of_mem hm),
          fun h => .legacy ha fun m hm => by
            obtain ⟨m', hm', e⟩ := List.mem_map.mp hm
            cases e; exact h _ hm'⟩
      rw [hw, C16_legacy_array, ← Option.isSome_iff_exists]
      have hmem : (∀ m ∈ legacyClean ms, (parseQuery m).isSome) ↔
          ∀ m ∈ ms, WQLObject (dropNulls m) := by
        simp only [legacyClean, List.mem_filter, List.mem_map, Option.isSome_iff_exists,
          C16_object_ok_iff_wellformed]
        exact ⟨fun h m hm => by
            by_cases he : dropNulls m = []
            · rw [he]; nofun
            · exact h _ ⟨⟨m, hm, rfl⟩, by simpa using he⟩,
          fun h _ ⟨⟨m, hm, e⟩, _⟩ => e ▸ h m hm⟩
      rw [← hmem, ← List.mapM_isSome_iff]
      cases hc : legacyClean ms with
      | nil => simp
      | cons m r => simp only [Option.isSome_map]
    · have hn : legacyFilters a = none := by
        rwa [← Option.not_isSome_iff_eq_none, legacyFilters_isSome_iff]
      simp only [parseRestriction, hn]
      exact ⟨nofun, fun | .legacy h _ => absurd h ha⟩
  | _ => exact ⟨nofun, nofun⟩

/-! ### the rejected shapes, by name

Each is stated for one entry `key: value` (`parseOperator`); the propagation theorems
after them lift a rejected entry to the rejection of every restriction containing it. -/

/-- a number, boolean or null is rejected under every key -/
theorem C16_reject_scalar_value (k : String) (v : Json)
    (hv : v = .null ∨ (∃ b, v = .bool b) ∨ (∃ n, v = .num n)) : parseOperator k v = none := by
  rcases hv with rfl | ⟨b, rfl⟩ | ⟨n, rfl⟩ <;> rfl

/-- an array is rejected as the value of a tag (any key but `$and`, `$or`, `$exist`) -/
theorem C16_reject_array_value {k : String} (vs : List Json)
    (hk : k ≠ "$and" ∧ k ≠ "$or" ∧ k ≠ "$exist") : parseOperator k (.arr vs) = none := by
  rw [← Option.not_isSome_iff_eq_none, parseOperator_isSome_iff]
  simp [hk]

/-- a value object whose number of keys is not one is rejected -/
theorem C16_reject_multikey_object {k : String} {m : List (String × Json)} (hk : k ∉ reserved)
    (hm : m.length ≠ 1) : parseOperator k (.obj m) = none := by
  rw [← Option.not_isSome_iff_eq_none, parseOperator_isSome_iff]
  rintro (⟨rfl, _⟩ | ⟨_, _, _, rfl, _⟩)
  · exact hk (by simp [reserved])
  · exact hm rfl

private theorem single_eq_none {k op : String} {x : Json} (hk : k ∉ reserved)
    (h : ¬ (parseSingleOperator op k x).isSome) : parseOperator k (.obj [(op, x)]) = none := by
  rw [← Option.not_isSome_iff_eq_none, parseOperator_isSome_iff]
  rintro (⟨rfl, _⟩ | ⟨_, _, _, e, hs⟩)
  · exact hk (by simp [reserved])
  · cases e; exact h hs

/-- an unknown operator inside a value object is rejected -/
theorem C16_reject_unknown_operator {k op : String} (x : Json) (hk : k ∉ reserved)
    (hop : op ∉ cmpOps) (hin : op ≠ "$in") : parseOperator k (.obj [(op, x)]) = none :=
  single_eq_none hk (by
    rw [parseSingleOperator_isSome_iff]
    rintro (⟨h, _⟩ | ⟨h, _⟩)
    · exact hop h
    · exact hin h)

/-- `$neq`, `$gt`, `$gte`, `$lt`, `$lte`, `$like` with a non-string operand are rejected -/
theorem C16_reject_cmp_operand {k op : String} {x : Json} (hk : k ∉ reserved) (hop : op ∈ cmpOps)
    (hx : ∀ s, x ≠ .str s) : parseOperator k (.obj [(op, x)]) = none :=
  single_eq_none hk (by
    rw [parseSingleOperator_isSome_iff]
    rintro (⟨_, s, e⟩ | ⟨rfl, _⟩)
    · exact hx s e
    · simp [cmpOps] at hop)

/-- `$in` with an operand which is not an array of strings is rejected -/
theorem C16_reject_in_operand {k : String} {x : Json} (hk : k ∉ reserved)
    (hx : ∀ vs, x = .arr vs → ¬ AllStr vs) : parseOperator k (.obj [("$in", x)]) = none :=
  single_eq_none hk (by
    rw [parseSingleOperator_isSome_iff]
    rintro (⟨h, _⟩ | ⟨_, vs, e, hs⟩)
    · simp [cmpOps] at h
    · exact hx vs e hs)

/-- `$and` / `$or` with a non-array, or with a member which is not an object, are rejected -/
theorem C16_reject_and_or_operand {k : String} {v : Json} (hk : k = "$and" ∨ k = "$or")
    (hv : ∀ vs, v = .arr vs → ¬ AllObj vs) : parseOperator k v = none := by
  rw [← Option.not_isSome_iff_eq_none, parseOperator_isSome_iff]
  cases v with
  | arr vs =>
    rintro (⟨_, hl⟩ | ⟨rfl, _⟩)
    · exact hv vs rfl ((parseListOperators_isSome_iff vs).mp hl).1
    · simp at hk
  | _ => rcases hk with rfl | rfl <;> simp [reserved]

/-- `$not` with anything but an object is rejected -/
theorem C16_reject_not_operand {v : Json} (hv : ∀ m, v ≠ .obj m) : parseOperator "$not" v = none := by
  cases v with
  | obj m => exact absurd rfl (hv m)
  | _ => rfl

/-- `$exist` with anything but a string or an array of strings is rejected -/
theorem C16_reject_exist_operand {v : Json} (hs : ∀ s, v ≠ .str s)
    (hv : ∀ vs, v = .arr vs → ¬ AllStr vs) : parseOperator "$exist" v = none := by
  rw [← Option.not_isSome_iff_eq_none, parseOperator_isSome_iff]
  cases v with
  | str s => exact absurd rfl (hs s)
  | arr vs => simpa using hv vs rfl
  | _ => simp [reserved]

/-- a top-level string, number, boolean or null is rejected -/
theorem C16_reject_toplevel_scalar (j : Json)
    (hj : j = .null ∨ (∃ b, j = .bool b) ∨ (∃ n, j = .num n) ∨ (∃ s, j = .str s)) :
    parseRestriction j = none := by
  rcases hj with rfl | ⟨b, rfl⟩ | ⟨n, rfl⟩ | ⟨s, rfl⟩ <;> rfl

/-- one rejected entry makes the whole object rejected -/
theorem C16_reject_propagates_entry {m : List (String × Json)} {k : String} {v : Json}
    (hkv : (k, v) ∈ m) (h : parseOperator k v = none) : parseQuery m = none := by
  rw [← Option.not_isSome_iff_eq_none, parseQuery_isSome_iff, parseEntries_isSome_iff]
  exact fun hall => by simpa [h] using hall (k, v) hkv

/-- a rejected object makes the restriction, the `$not`, and any `$and`/`$or` list
containing it rejected -/
theorem C16_reject_propagates_object {m : List (String × Json)} (h : parseQuery m = none) :
    parseRestriction (.obj m) = none ∧ parseOperator "$not" (.obj m) = none ∧
    (∀ k vs, (k = "$and" ∨ k = "$or") → Json.obj m ∈ vs → parseOperator k (.arr vs) = none) := by
  have hno : ¬ (parseEntries m).isSome := by rw [← parseQuery_isSome_iff, h]; simp
  refine ⟨h, ?_, fun k vs hk hm => ?_⟩ <;> rw [← Option.not_isSome_iff_eq_none, parseOperator_isSome_iff]
  · simpa [reserved] using hno
  · rintro (⟨_, hl⟩ | ⟨rfl, _⟩)
    · exact hno (((parseListOperators_isSome_iff vs).mp hl).2 m hm)
    · simp at hk

/-- a legacy filter which is rejected after null removal makes the list rejected -/
theorem C16_reject_propagates_legacy {a : List Json} {m : List (String × Json)}
    (hm : Json.obj m ∈ a) (h : parseQuery (dropNulls m) = none) :
    parseRestriction (.arr a) = none := by
  refine Option.eq_none_iff_forall_ne_some.mpr fun q hp => ?_
  match (C16_parse_ok_iff_wellformed (.arr a)).mp ⟨q, hp⟩ with
  | .legacy _ hall =>
    obtain ⟨q', hq'⟩ := (C16_object_ok_iff_wellformed _).mpr (hall m hm)
    rw [h] at hq'; cases hq'

/-- *not* rejected, although it looks like an operator: at the top level of a query
object (and inside `$and`/`$or`/`$not`) any key other than the four reserved ones is a
tag name, so `{"$gt": "5"}` or `{"$foo": "x"}` parse to equality leaves on the tags `$gt`,
`$foo` (which the evaluation then never satisfies, C06). -/
theorem C16_dollar_key_is_a_tag :
    parseRestriction (.obj [("$gt", .str "5")]) = some (.eq "$gt" "5") ∧
    parseRestriction (.obj [("$foo", .str "x")]) = some (.eq "$foo" "x") :=
  ⟨rfl, rfl⟩

/-! ## empty forms mean "no restriction" -/

/-- `{}`, `[]`, `{"$and":[]}`, `{"$or":[]}`, `{"$exist":[]}`, `[{}]`, `[{"a":null}]` all parse to `And([])` … -/
theorem C16_empty_forms :
    parseRestriction (.obj []) = some (.and []) ∧
    parseRestriction (.arr []) = some (.and []) ∧
    parseRestriction (.obj [("$and", .arr [])]) = some (.and []) ∧
    parseRestriction (.obj [("$or", .arr [])]) = some (.and []) ∧
    parseRestriction (.obj [("$exist", .arr [])]) = some (.and []) ∧
    parseRestriction (.arr [.obj []]) = some (.and []) ∧
    parseRestriction (.arr [.obj [("a", .null)]]) = some (.and []) :=
  ⟨rfl, rfl, rfl, rfl, rfl, rfl, rfl⟩

/-- … which every credential satisfies … -/
theorem C16_empty_is_unrestricted (ld : String → Bool) (vals : List (String × Option String))
    (f : Filter) : eval ld vals f (.and []) = true := rfl

/-- … and `is_self_attested` treats `And([])`, `Or([])` and an absent restriction alike
(a self-attested value is acceptable for the referent), any other restriction never -/
theorem C16_empty_self_attested (inSet : Bool) :
    isSelfAttested (some (.and [])) inSet = inSet ∧
    isSelfAttested (some (.or [])) inSet = inSet ∧
    isSelfAttested none inSet = inSet := ⟨rfl, rfl, rfl⟩

/-- any restriction other than the two empty ones rules a self-attested value out -/
theorem C16_nonempty_not_self_attested (q : Query) (inSet : Bool)
    (h1 : q ≠ .and []) (h2 : q ≠ .or []) : isSelfAttested (some q) inSet = false := by
  unfold isSelfAttested
  split <;> simp_all

/-- not every empty-looking form is "no restriction": `{"$not": {}}` is `Not(And([]))`, which no
credential satisfies -/
theorem C16_not_empty_is_unsatisfiable (ld : String → Bool) (vals : List (String × Option String))
    (f : Filter) :
    parseRestriction (.obj [("$not", .obj [])]) = some (.not (.and [])) ∧
    eval ld vals f (.not (.and [])) = false := ⟨rfl, rfl⟩

/-! ## validation of requests -/

mutual
/-- the `(tag, value)` pairs `_process_operator` hands to `_check_restriction`
(`$exist` names are checked with the empty value) -/
def leaves : Query → List (String × String)
  | .and l => leavesList l
  | .or l => leavesList l
  | .not q => leaves q
  | .eq k v => [(k, v)]
  | .neq k v => [(k, v)]
  | .gt k v => [(k, v)]
  | .gte k v => [(k, v)]
  | .lt k v => [(k, v)]
  | .lte k v => [(k, v)]
  | .like k v => [(k, v)]
  | .isIn k vs => vs.map (fun v => (k, v))
  | .exist ks => ks.map (fun k => (k, ""))
def leavesList : List Query → List (String × String)
  | [] => []
  | q :: r => leaves q ++ leavesList r
end

private theorem leavesList_eq (l : List Query) : leavesList l = l.flatMap leaves := by
  induction l with
  | nil => rfl
  | cons q r ih => simp [leavesList, ih]

/-- `_process_operator` checks every leaf, and nothing else -/
theorem validateQuery_eq_all (isUri : String → Bool) (v1 : Bool) (q : Query) :
    validateQuery isUri v1 q = (leaves q).all fun tv => checkRestriction isUri v1 tv.1 tv.2 := by
  induction q using Query.induct with
  | and l ih | or l ih =>
    simp only [validateQuery, validateAll_eq, leaves, leavesList_eq, List.all_flatMap]
    rw [Bool.eq_iff_iff, List.all_eq_true, List.all_eq_true]
    exact forall₂_congr fun q hq => by rw [ih q hq]
  | not q ih => simpa only [validateQuery, leaves] using ih
  | isIn k vs | exist ks => simp [validateQuery, leaves, List.all_map, Function.comp_def]
  | _ => simp [validateQuery, leaves]

/-- **version 1**: a restriction is refused exactly when one of its leaves puts a fully
qualified (URI) value on one of the tags `issuer_did`, `cred_def_id`, `schema_id`,
`schema_issuer_did`, `rev_reg_id` — at any depth, under any operator, `$not` included -/
theorem C16_validate_v1 (isUri : String → Bool) (q : Query) :
    validateQuery isUri true q = false ↔
      ∃ tv ∈ leaves q, tv.1 ∈ qualifiableTags ∧ isUri tv.2 = true := by
  simp [validateQuery_eq_all, List.all_eq_false, checkRestriction]

/-- **version 2**: every restriction passes -/
theorem C16_validate_v2 (isUri : String → Bool) (q : Query) :
    validateQuery isUri false q = true := by
  simp [validateQuery_eq_all, checkRestriction]

/-- the new-style tags `issuer_id` and `schema_issuer_id` are *not* among the checked
tags: a version-1 request may carry a fully qualified value on them -/
theorem C16_validate_v1_new_tags_unchecked (isUri : String → Bool) (v : String) :
    validateQuery isUri true (.eq "issuer_id" v) = true ∧
    validateQuery isUri true (.eq "schema_issuer_id" v) = true := by
  constructor <;> simp [validateQuery, checkRestriction, qualifiableTags]

/-- **request validation, structural clauses**: a request is valid iff it asks for
something, every requested attribute has exactly one of a non-empty `name` and a
non-empty `names` list, every predicate has a non-empty name, and every restriction
passes `validateQuery`. -/
theorem C16_validate_request_spec (isUri : String → Bool) (v1 : Bool)
    (attrs : List (Option String × Option (List String) × Option Query))
    (preds : List (String × Option Query)) :
    validateRequest isUri v1 attrs preds = true ↔
      (attrs ≠ [] ∨ preds ≠ []) ∧
      (∀ a ∈ attrs,
        ((∃ s, a.1 = some s ∧ s ≠ "") ↔ ¬ (∃ l, a.2.1 = some l ∧ l ≠ [])) ∧
        (∀ q, a.2.2 = some q → validateQuery isUri v1 q = true)) ∧
      (∀ p ∈ preds, p.1 ≠ "" ∧ (∀ q, p.2 = some q → validateQuery isUri v1 q = true)) := by
  have hopt : ∀ o : Option Query, validateOptQuery isUri v1 o = true ↔
      ∀ q, o = some q → validateQuery isUri v1 q = true := by
    intro o; cases o <;> simp [validateOptQuery]
  have hattr : ∀ a : Option String × Option (List String) × Option Query,
      validateAttr isUri v1 a = true ↔
        ((∃ s, a.1 = some s ∧ s ≠ "") ↔ ¬ (∃ l, a.2.1 = some l ∧ l ≠ [])) ∧
        (∀ q, a.2.2 = some q → validateQuery isUri v1 q = true) := by
    rintro ⟨n, ns, r⟩
    rcases n with _ | s <;> rcases ns with _ | _ | ⟨_, _⟩ <;> simp [validateAttr, ← hopt]
  have hpred : ∀ p : String × Option Query, validatePred isUri v1 p = true ↔
      p.1 ≠ "" ∧ (∀ q, p.2 = some q → validateQuery isUri v1 q = true) := by
    rintro ⟨n, r⟩
    simp [validatePred, ← hopt]
  simp [validateRequest, hattr, hpred]

/-- a version-1 request is refused as soon as one restriction (of an attribute or of a
predicate) carries a fully qualified value on a qualifiable tag -/
theorem C16_validate_request_v1_refused (isUri : String → Bool)
    (attrs : List (Option String × Option (List String) × Option Query))
    (preds : List (String × Option Query)) (q : Query)
    (hq : (∃ a ∈ attrs, a.2.2 = some q) ∨ (∃ p ∈ preds, p.2 = some q))
    (tv : String × String) (htv : tv ∈ leaves q) (htag : tv.1 ∈ qualifiableTags)
    (huri : isUri tv.2 = true) : validateRequest isUri true attrs preds = false := by
  have hbad : validateQuery isUri true q = false :=
    (C16_validate_v1 isUri q).mpr ⟨tv, htv, htag, huri⟩
  refine Bool.eq_false_iff.mpr fun hv => ?_
  obtain ⟨_, ha, hp⟩ := (C16_validate_request_spec isUri true attrs preds).mp hv
  have hgood : validateQuery isUri true q = true :=
    hq.elim (fun ⟨a, hmem, e⟩ => (ha a hmem).2 q e) (fun ⟨p, hmem, e⟩ => (hp p hmem).2 q e)
  rw [hbad] at hgood; cases hgood

/-- sample predicate standing for `is_uri_identifier` in the examples -/
private def sampleUri (s : String) : Bool := "did:".toList.isPrefixOf s.toList

example : parseRestriction (.obj [("a", .str "1"), ("b", .obj [("$in", .arr [.str "x", .str "y"])])])
    = some (.and [.eq "a" "1", .isIn "b" ["x", "y"]]) := rfl
example : print (.and [.eq "a" "1", .isIn "b" ["x", "y"]])
    = .obj [("$and", .arr [.obj [("a", .str "1")], .obj [("b", .obj [("$in", .arr [.str "x", .str "y"])])]])] := rfl
example : Good (.and [.eq "a" "1", .isIn "b" ["x", "y"]]) := by
  simp [Good, GoodL, reserved]
example : WQL (.obj [("a", .str "1"), ("$not", .obj [("b", .obj [("$like", .str "x%")])])]) :=
  (C16_parse_ok_iff_wellformed _).mp ⟨_, rfl⟩
example : ¬ WQL (.obj [("a", .obj [("$in", .arr [.str "x", .num 3])])]) :=
  fun h => by obtain ⟨q, hq⟩ := (C16_parse_ok_iff_wellformed _).mpr h; cases hq
example : ¬ WQL (.obj [("a", .obj [("$neq", .str "x"), ("$gt", .str "y")])]) :=
  fun h => by obtain ⟨q, hq⟩ := (C16_parse_ok_iff_wellformed _).mpr h; cases hq
example : ¬ WQL (.obj [("a", .obj [("$regex", .str "x")])]) :=
  fun h => by obtain ⟨q, hq⟩ := (C16_parse_ok_iff_wellformed _).mpr h; cases hq
example : ¬ WQL (.arr [.obj [("a", .str "1")], .str "b"]) :=
  fun h => by obtain ⟨q, hq⟩ := (C16_parse_ok_iff_wellformed _).mpr h; cases hq
example : parseRestriction (.arr [.obj [("a", .str "1"), ("b", .null)], .obj [], .obj [("c", .str "2")]])
    = some (.or [.eq "a" "1", .eq "c" "2"]) := rfl
example : parseRestriction (.arr [.obj [("a", .str "1")]]) = some (.or [.eq "a" "1"]) := rfl
example : parseRestriction (.arr [.obj [("a", .str "1"), ("b", .str "2")]])
    = some (.or [.and [.eq "a" "1", .eq "b" "2"]]) := rfl
example : validateQuery sampleUri true (.not (.or [.eq "x" "y", .isIn "schema_id" ["a", "did:sov:1"]])) = false := by
  decide +kernel
example : validateQuery sampleUri true (.eq "attr::schema_id::value" "did:sov:1") = true := by decide +kernel
example : validateRequest sampleUri false [(some "name", none, some (.eq "schema_id" "did:sov:1"))] [] = true := by
  decide +kernel
example : validateRequest sampleUri true [(some "name", none, some (.eq "schema_id" "did:sov:1"))] [] = false := by
  decide +kernel
example : validateRequest sampleUri true [] [] = false := by decide +kernel
example : validateRequest sampleUri true [(some "name", some ["a"], none)] [] = false := by decide +kernel
example : validateRequest sampleUri true [(some "", some [], none)] [] = false := by decide +kernel
example : validateRequest sampleUri true [(none, some ["a"], none)] [("age", none)] = true := by decide +kernel
example : validateRequest sampleUri true [] [("", none)] = false := by decide +kernel

end AnonModel.Query
