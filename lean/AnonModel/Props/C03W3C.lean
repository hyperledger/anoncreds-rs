import AnonModel.Lemmas.VerifierW3C
/-!
# C03 (W3C form) — every value an accepted W3C presentation exposes is the value the issuer
signed, and its credentials name the issuer / definition that signed them

Property theorems only (helpers: `Lemmas/VerifierW3C.lean`). `c.sub.cred` is the (ghost) credential
the sub-proof of `c` was built from: `c.sub.cred.attrs` maps normalised attribute names to the
encoded values the issuer signed, `c.sub.cred.key` is the signing key. `Encode.encode` is
`encode_credential_attribute`.

`check_credential_subjects` checks every subject entry of every credential, not only the requested
ones (/repo fix commit 5d2cd72; F6 of DESIGN §7 was this check missing: subject values not in the
proof rode along), so `C03_w3c_subject` holds of every entry of every credential.
-/
namespace AnonModel.VerifierW3C
open AnonModel.Verifier AnonModel.IdealCL AnonModel

/-- **issuer and definition**: every credential of an accepted presentation is sound — in
particular `issuer` is the issuer of, and `verificationMethod` is the id of, the credential
definition the verifier supplied for `cred_def_id`, *and the key of that definition is the one that
signed the credential behind the sub-proof* (`c.sub.cred.key = cd.key`) -/
theorem C03_w3c_issuer {ctx : Ctx} {r : Request} {p : Presentation}
    (h : verifyW3C ctx r p = .ok true) : ∀ c ∈ p.creds, CredSound ctx c :=
  fun _ hc => credSound_of_ok h hc

/-- **subject values**: in an accepted presentation every string or number of a credential subject
is revealed by the credential's sub-proof under a name of the same normal form, with exactly the
encoding of that string/number, and that is the value the issuer signed; every boolean (predicate
marker) is backed by a predicate on that attribute which the sub-proof proves and which is true of
the signed value -/
theorem C03_w3c_subject {ctx : Ctx} {r : Request} {p : Presentation}
    (h : verifyW3C ctx r p = .ok true) :
    ∀ c ∈ p.creds, ∀ k v, (k, v) ∈ c.subject →
      ((∀ b, v ≠ .bool b) →
        ∃ kv ∈ c.sub.revealed, Names.commonView kv.1 = Names.commonView k ∧
          kv.2 = Encode.encode v.toStr ∧ c.sub.cred.attrs.lookup kv.1 = some kv.2) ∧
      (∀ b, v = .bool b →
        ∃ pr ∈ c.sub.preds, Names.commonView pr.attr = Names.commonView k ∧
          predHolds c.sub.cred.attrs pr = true) := by
  intro c hc k v hkv
  have hsub := subjectsOk_iff.mp (verifyW3C_ok_true_iff.mp h).subjects c hc _ hkv
  refine ⟨fun hnb => (ok_revealed h hc (hsub.1 hnb)).1, ?_⟩
  rintro b rfl
  obtain ⟨pr, hm, hn⟩ := hsub.2 b rfl
  exact ⟨pr, hm, hn, (credSound_of_ok h hc).preds_hold pr hm⟩

/-- the same, read off the signed credential: for every string/number subject entry `(k, v)` the
issuer-signed credential has the attribute `commonView k` with value `encode v` -/
theorem C03_w3c_subject_signed {ctx : Ctx} {r : Request} {p : Presentation}
    (h : verifyW3C ctx r p = .ok true) {c : Cred} (hc : c ∈ p.creds) {k : String} {v : SubjVal}
    (hkv : (k, v) ∈ c.subject) (hnb : ∀ b, v ≠ .bool b) :
    c.sub.cred.attrs.lookup (Names.commonView k) = some (Encode.encode v.toStr) :=
  (ok_revealed h hc
    ((subjectsOk_iff.mp (verifyW3C_ok_true_iff.mp h).subjects c hc _ hkv).1 hnb)).2

/-- **altered value rejected**: if a credential subject shows a string/number `v` under `k`, but
the credential behind the sub-proof has no attribute of that normal-form name whose signed value is
`encode v` (the value was changed after the proof was made, or moved to another credential), the
presentation is not accepted -/
theorem C03_w3c_altered_rejected {ctx : Ctx} {r : Request} {p : Presentation} {c : Cred}
    {k : String} {v : SubjVal} (hc : c ∈ p.creds) (hkv : (k, v) ∈ c.subject)
    (hnb : ∀ b, v ≠ .bool b)
    (hno : ∀ a, Names.commonView a = Names.commonView k →
      c.sub.cred.attrs.lookup a ≠ some (Encode.encode v.toStr)) :
    verifyW3C ctx r p ≠ .ok true := by
  intro h
  obtain ⟨kv, _, hn, he, hl⟩ := (C03_w3c_subject h c hc k v hkv).1 hnb
  exact hno kv.1 hn (he ▸ hl)

/-- **added entry rejected**: a subject entry (value or marker) whose name is, up to
normalisation, not an attribute of the credential behind the sub-proof ⇒ not accepted -/
theorem C03_w3c_added_rejected {ctx : Ctx} {r : Request} {p : Presentation} {c : Cred}
    {k : String} {v : SubjVal} (hc : c ∈ p.creds) (hkv : (k, v) ∈ c.subject)
    (hno : ∀ a ∈ c.sub.cred.attrs.map Prod.fst, Names.commonView a ≠ Names.commonView k) :
    verifyW3C ctx r p ≠ .ok true := by
  intro h
  cases v with
  | bool b =>
    obtain ⟨pr, _, hn, hh⟩ := (C03_w3c_subject h c hc k _ hkv).2 b rfl
    exact hno pr.attr (predHolds_mem_keys hh) hn
  | _ =>
    obtain ⟨kv, _, hn, _, hl⟩ := (C03_w3c_subject h c hc k _ hkv).1 nofun
    exact hno kv.1 (List.mem_keys_of_lookup hl) hn

/-- a W3C credential that names another issuer than the supplied definition ⇒ not accepted -/
theorem C03_w3c_wrong_issuer_rejected {ctx : Ctx} {r : Request} {p : Presentation} {c : Cred}
    {cd : CredDefInfo} (hc : c ∈ p.creds) (hcd : ctx.credDefs.lookup c.credDefId = some cd)
    (hne : cd.issuerId ≠ c.issuer) : verifyW3C ctx r p ≠ .ok true :=
  fun h => hne ((C03_w3c_issuer h c hc).issuer hcd)

/-- a W3C credential whose proof's verification method is not its `cred_def_id` ⇒ not accepted -/
theorem C03_w3c_wrong_method_rejected {ctx : Ctx} {r : Request} {p : Presentation} {c : Cred}
    (hc : c ∈ p.creds) (hne : c.verificationMethod ≠ c.credDefId) :
    verifyW3C ctx r p ≠ .ok true :=
  fun h => hne (C03_w3c_issuer h c hc).method

set_option maxRecDepth 100000 in
example : verifyW3C Demo.ctx Demo.req Demo.pres = .ok true ∧ Demo.cred ∈ Demo.pres.creds ∧
    ("N", SubjVal.str "25") ∈ Demo.cred.subject ∧ ("a", SubjVal.bool true) ∈ Demo.cred.subject :=
  ⟨Demo.accepted, by simp [Demo.pres], by simp [Demo.cred], by simp [Demo.cred]⟩

example :
    verifyW3C Demo.ctx Demo.req
      { Demo.pres with creds := [{ Demo.cred with subject := [("N", .str "26"), ("a", .bool true)] }] }
      ≠ .ok true := by
  refine C03_w3c_altered_rejected
    (c := { Demo.cred with subject := [("N", .str "26"), ("a", .bool true)] })
    (k := "N") (v := .str "26") (by simp) (by simp) (fun b hb => by cases hb) ?_
  intro a _ hl
  have hm := lookup_some_mem hl
  have he : Encode.encode (SubjVal.str "26").toStr = "26" := by decide +kernel
  rw [he] at hm
  simp [Demo.cred, Demo.sub] at hm

example :
    verifyW3C Demo.ctx Demo.req
      { Demo.pres with creds := [{ Demo.cred with subject := ("z", .str "1") :: Demo.cred.subject }] }
      ≠ .ok true := by
  refine C03_w3c_added_rejected
    (c := { Demo.cred with subject := ("z", .str "1") :: Demo.cred.subject })
    (k := "z") (v := .str "1") (by simp) (by simp) ?_
  decide +kernel

end AnonModel.VerifierW3C
