import AnonModel.Gen.Ffi
/-!
# C17 — the C ABI: every entry point is wrapped and guards its result pointers

Theorems by `decide +kernel` over the table regenerated from `src/ffi/**` on every run (`Gen/Ffi.lean`).
"Decisions equal to the native ones" is established by the correspondence runs only (flows driven
natively and through the exported symbols), not by a theorem.
-/
namespace AnonModel.Ffi
open AnonModel.Gen

/-- result / out parameters: raw `*mut` pointers the function writes through -/
def _root_.AnonModel.Gen.FfiEntry.outParams (f : FfiEntry) : List String :=
  (f.params.filter (fun p => "*mut".toList.isPrefixOf p.2.toList)).map Prod.fst

/-- entry points that return nothing and take no result pointer: destructors and the version string -/
def noResult : List String :=
  ["anoncreds_buffer_free", "anoncreds_object_free", "anoncreds_string_free", "anoncreds_version"]

/-- `anoncreds_get_current_error` cannot itself be wrapped in `catch_error` (it reads the slot `catch_error`
writes); it guards its pointer explicitly and calls nothing that can fail -/
def selfGuarded : List String := ["anoncreds_get_current_error"]

/-- every entry point that reports through an error code runs its whole body inside `catch_error`
(which turns `Err` and panics into a non-zero code and stores the message) -/
theorem C17_all_wrapped :
    ∀ f ∈ ffiEntries, f.returnsErrorCode = true → f.wrapped = true ∨ f.name ∈ selfGuarded := by decide +kernel

/-- every pointer an entry point writes through is null-checked first -/
theorem C17_all_out_pointers_guarded :
    ∀ f ∈ ffiEntries, ∀ p ∈ f.writes, p ∈ f.checked := by decide +kernel

/-- every `*mut` parameter of an error-code entry point is null-checked (whether or not a write was found) -/
theorem C17_all_result_params_checked :
    ∀ f ∈ ffiEntries, f.returnsErrorCode = true → ∀ p ∈ f.outParams, p ∈ f.checked := by decide +kernel

/-- the only entry points without an error code are the destructors and the version getter -/
theorem C17_no_result_functions :
    ∀ f ∈ ffiEntries, f.returnsErrorCode = false → f.name ∈ noResult := by decide +kernel

/-- the macro template behind every `*_from_json` entry point has guard and wrapper -/
theorem C17_from_json_template_guarded : fromJsonTemplateGuarded = true := by decide

example : (ffiEntries.filter (fun f => f.returnsErrorCode)).length ≥ 40 := by decide +kernel

end AnonModel.Ffi
