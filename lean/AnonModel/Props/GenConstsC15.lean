import AnonModel.Gen.WireSrc
import AnonModel.Model.Base64
/-!
# C15: the proof-value codec `Model/Base64.lean` and `Model/Msgpack.lean` were written for is the one in `/repo`

`Gen/WireSrc.lean` holds, regenerated on every run, the bodies (whitespace and comments removed) of the four wrappers the
two models stand for — `utils/msg_pack.rs: encode / decode` (`rmp_serde::to_vec_named`: structures as maps keyed by member
names; `rmp_serde::from_slice`: trailing bytes not looked at), `utils/base64.rs: encode / decode` (the `URL_SAFE_NO_PAD`
engine) —, the multibase header literal, and the bodies of `format::base64_msgpack::serialize` and of its visitor's
`visit_str` (msgpack, then base64, then the header; and back in the opposite order, any failure one error). A rewrite breaks
the equality even when the behaviour is unchanged; the correspondence families of C15 (ops `mp_*`, `b64_*`, `pv_*`) then
decide whether the behaviour changed.
-/
namespace AnonModel.GenConsts
open AnonModel.Gen

/-- the model's header is the library's -/
theorem C15_base_header_unchanged : wireBaseHeader.toList = ['u'] ∧
    (∀ bytes, (AnonModel.Base64.envelopeEncode bytes).head? = some 'u') := by
  refine ⟨by decide +kernel, fun _ => rfl⟩

/-- the wrappers and the order of the three layers -/
theorem C15_codec_sources_unchanged :
    wireSrc_mp_encode = "rmp_serde::to_vec_named(&val).map_err(|_|err_msg!(\"unabletoencodemessageusingmessagepack\"))" ∧
    wireSrc_mp_decode = "rmp_serde::from_slice(val).map_err(|_|err_msg!(\"unabletodecodemessageusingmessagepack\"))" ∧
    wireSrc_b64_encode = "engine::general_purpose::URL_SAFE_NO_PAD.encode(val)" ∧
    wireSrc_b64_decode = "engine::general_purpose::URL_SAFE_NO_PAD.decode(val).map_err(|_|err_msg!(\"invalidbase64string\"))" ∧
    wireSrc_fmt_serialize = "letmsg_pack_encoded=msg_pack::encode(obj).map_err(S::Error::custom)?;letbase64_encoded=base64::encode(msg_pack_encoded);serializer.collect_str(&format_args!(\"{}{}\",BASE_HEADER,base64_encoded))" ∧
    wireSrc_fmt_visit_str = "letSome(obj)=v.strip_prefix(BASE_HEADER).and_then(|v|base64::decode(v).ok()).and_then(|v|msg_pack::decode(&v).ok())else{returnErr(E::custom(format!(\"Unexpectedmultibasebaseheader:{:?}\",v)));};Ok(obj)" := by
  refine ⟨?_, ?_, ?_, ?_, ?_, ?_⟩ <;> rfl

end AnonModel.GenConsts
