import AnonModel.Lemmas.VerifierLegacy
import AnonModel.Props.C06Eval
/-!
# C06 (legacy format) — restrictions hold for the credential actually used

Soundness direction for `Verifier.verifyLegacy` (model of `services/verifier.rs:
verify_presentation`, here mainly `verify_requested_restrictions`) on top of the ideal CL
functionality. `Props/C06Eval.lean` says what `Query.eval` means (`C06_eval_iff_sat`: evaluation =
Boolean semantics over the six metadata fields and the value map). This file says **which**
metadata and **which** values an accepted presentation's restrictions were evaluated on:

* the filter `f` is exactly the metadata of the schema and credential definition the verifier
  supplied for the identifier at the index the referent points to (six fields spelled out), and the
  sub-proof at that same index is `SubSound` — signed by the key of that very definition over that
  very schema. So metadata restrictions (`schema_id`, `cred_def_id`, `issuer_id`, …) are bound to the
  credential actually used.
* the referent points to one index only: it occurs in exactly one of `revealed_attrs`,
  `revealed_attr_groups`, `unrevealed_attrs` (`check_unique_attr_referents`, /repo fix commit d693949;
  F10 of DESIGN §7 was this check missing).
* a restricted attribute cannot be served self-attested.
* the value map (`attrValueMap`, `predValueMap`) is built from the **raw** values of the
  presentation. These are not authenticated (see C03): `attr::<name>::value` restrictions are *not*
  bound to the signed value — known finding **F15**, `C06_raw_unbound_refuted`.

Key uniqueness: no hypothesis is needed; the restriction loops iterate over the entries of the
request maps.
-/
namespace AnonModel.Verifier
open AnonModel.Query (Query Filter)
open AnonModel.IdealCL

/-- "`f` is the metadata of the supplied schema `sc` / definition `cd` of identifier `id`" -/
def C06_FilterOf (id : Identifier) (sc : SchemaInfo) (cd : CredDefInfo) (f : Filter) : Prop :=
  f.schemaId = id.schemaId ∧ f.schemaIssuerId = sc.issuerId ∧ f.schemaName = sc.name ∧
  f.schemaVersion = sc.version ∧ f.issuerId = cd.issuerId ∧ f.credDefId = id.credDefId

/-- "the referent occurs in exactly one of the three indexed attribute maps" -/
def C06_ExactlyOne (p : Presentation) (ref : String) : Prop :=
  (ref ∈ keys p.revealed ∧ ref ∉ keys p.groups ∧ ref ∉ keys p.unrevealed) ∨
  (ref ∉ keys p.revealed ∧ ref ∈ keys p.groups ∧ ref ∉ keys p.unrevealed) ∨
  (ref ∉ keys p.revealed ∧ ref ∉ keys p.groups ∧ ref ∈ keys p.unrevealed)

/-- **attribute restrictions are bound to the credential used**: in an accepted presentation, for a
requested attribute with a restriction `q` that is not served self-attested, the referent occurs in
exactly one of the three indexed maps, points to one index `i`; `q` evaluates to true on the filter
built from the schema and definition the verifier supplied for identifier `i` and on the value map
`attrValueMap`; and the sub-proof at index `i` is sound for that same schema and definition -/
theorem C06_legacy_attr_binding {ctx : Ctx} {r : Request} {p : Presentation}
    (h : verifyLegacy ctx r p = .ok true) {ref : String} {a : AttrInfo} {q : Query}
    (hm : (ref, a) ∈ r.attrs) (hq : a.restrictions = some q)
    (hns : ¬ Query.isSelfAttested a.restrictions ((keys p.selfAttested).contains ref) = true) :
    ∃ i id f sc cd s, attrIdentifierIdx p ref = some i ∧ C06_ExactlyOne p ref ∧
      p.identifiers[i]? = some id ∧ gatherFilter ctx id = some f ∧
      ctx.schemas.lookup id.schemaId = some sc ∧ ctx.credDefs.lookup id.credDefId = some cd ∧
      C06_FilterOf id sc cd f ∧
      Query.eval Ident.isLegacyDid (attrValueMap p ref a) f q = true ∧
      p.subs[i]? = some s ∧ SubSound ctx p i s := by
  have ok := verifyLegacy_ok_true_iff.mp h
  have hcl := ((restrictionsOk_iff ctx r p).mp ok.restrictions).2.1 _ hm
  rcases attrClause_elim hcl with hsa | hnone | ⟨q', hq', hok⟩
  · exact absurd hsa hns
  · rw [hq] at hnone; cases hnone
  · rw [hq] at hq'; cases hq'
    obtain ⟨i, id, f, hi, hid, hf, hev⟩ := attrRestrictionOk_elim hok
    obtain ⟨sc, cd, hsc, hcd, hfil⟩ := gatherFilter_some hf
    obtain ⟨s, hs, hss⟩ := ok_sub_exists h hid
    exact ⟨i, id, f, sc, cd, s, hi, uniqueReferents_exactly_one ok.unique (attrIdentifierIdx_mem hi),
      hid, hf, hsc, hcd, hfil, hev, hs, hss⟩

/-- the same with `Query.eval` read through its Boolean semantics (`C06_eval_iff_sat`) -/
theorem C06_legacy_attr_binding_sat {ctx : Ctx} {r : Request} {p : Presentation}
    (h : verifyLegacy ctx r p = .ok true) {ref : String} {a : AttrInfo} {q : Query}
    (hm : (ref, a) ∈ r.attrs) (hq : a.restrictions = some q)
    (hns : ¬ Query.isSelfAttested a.restrictions ((keys p.selfAttested).contains ref) = true) :
    ∃ i id f sc cd, attrIdentifierIdx p ref = some i ∧ p.identifiers[i]? = some id ∧
      ctx.schemas.lookup id.schemaId = some sc ∧ ctx.credDefs.lookup id.credDefId = some cd ∧
      C06_FilterOf id sc cd f ∧ Query.Sat Ident.isLegacyDid (attrValueMap p ref a) f q := by
  obtain ⟨i, id, f, sc, cd, s, hi, -, hid, -, hsc, hcd, hf, hev, -, -⟩ :=
    C06_legacy_attr_binding h hm hq hns
  exact ⟨i, id, f, sc, cd, hi, hid, hsc, hcd, hf, (Query.C06_eval_iff_sat _ _ _ q).mp hev⟩

/-- which index the referent points to, by the map it is in -/
theorem C06_attrIdentifierIdx_spec {p : Presentation} {ref : String} {i : Nat}
    (h : attrIdentifierIdx p ref = some i) :
    p.unrevealed.lookup ref = some i ∨ (∃ g, p.groups.lookup ref = some g ∧ g.idx = i) ∨
      (∃ info, p.revealed.lookup ref = some info ∧ info.idx = i) :=
  attrIdentifierIdx_some h

/-- the value map of an attribute referent, spelled out: the revealed **raw** value for a single
name; the group's **raw** values for `names`; and only `none`s (nothing revealed, so
`attr::_::value` restrictions pass vacuously) when the referent is not in the respective map — in
particular when it is unrevealed, in an accepted presentation -/
theorem C06_attrValueMap_spec (p : Presentation) (ref : String) (a : AttrInfo) :
    (∀ n, a.name = some n →
      attrValueMap p ref a = [(n, (p.revealed.lookup ref).map (·.raw))]) ∧
    (∀ names, a.name = none → a.names = some names →
      attrValueMap p ref a = names.map (fun n =>
        (n, ((p.groups.lookup ref).bind (fun g => g.values.lookup n)).map (·.1)))) ∧
    (ref ∉ keys p.revealed → ref ∉ keys p.groups → ∀ kv ∈ attrValueMap p ref a, kv.2 = none) := by
  refine ⟨?_, ?_, ?_⟩
  · intro n hn; simp only [attrValueMap, hn]
  · intro names hn hns; simp only [attrValueMap, hn, hns]
  · intro h1 h2 kv hkv
    simp only [attrValueMap, List.lookup_eq_none_iff_not_mem_keys.mpr h1,
      List.lookup_eq_none_iff_not_mem_keys.mpr h2, Option.map_none, Option.bind_none] at hkv
    split at hkv
    · rw [List.mem_singleton.mp hkv]
    · split at hkv
      · obtain ⟨_, _, rfl⟩ := List.mem_map.mp hkv; rfl
      · cases hkv

/-- **predicate restrictions are bound to the credential used**: in an accepted presentation, for a
requested predicate with a restriction `q`, the presentation names an index `pi` for the referent;
`q` evaluates to true on the filter built from the schema and definition supplied for identifier
`pi` and on `predValueMap` (the predicate's attribute as unrevealed, overlaid by the raw values of
the revealed attributes on the same index); and the sub-proof at `pi` is sound for that same schema
and definition -/
theorem C06_legacy_pred_binding {ctx : Ctx} {r : Request} {p : Presentation}
    (h : verifyLegacy ctx r p = .ok true) {ref : String} {info : PredInfo} {q : Query}
    (hm : (ref, info) ∈ r.preds) (hq : info.restrictions = some q) :
    ∃ pi id f sc cd s, p.predicates.lookup ref = some pi ∧
      p.identifiers[pi]? = some id ∧ gatherFilter ctx id = some f ∧
      ctx.schemas.lookup id.schemaId = some sc ∧ ctx.credDefs.lookup id.credDefId = some cd ∧
      C06_FilterOf id sc cd f ∧
      Query.eval Ident.isLegacyDid (predValueMap r p info pi) f q = true ∧
      p.subs[pi]? = some s ∧ SubSound ctx p pi s := by
  obtain ⟨pi, id, f, hpi, hid, hf, hev⟩ := predClause_elim
    (((restrictionsOk_iff ctx r p).mp (verifyLegacy_ok_true_iff.mp h).restrictions).2.2 _ hm) hq
  obtain ⟨sc, cd, hsc, hcd, hfil⟩ := gatherFilter_some hf
  obtain ⟨s, hs, hss⟩ := ok_sub_exists h hid
  exact ⟨pi, id, f, sc, cd, s, hpi, hid, hf, hsc, hcd, hfil, hev, hs, hss⟩

/-- **no self-attestation under a restriction**: a requested attribute with a non-empty restriction
(anything but `$and: []` / `$or: []`) whose referent occurs in none of the three indexed maps — so it
could only be served from `self_attested_attrs` — makes the presentation unacceptable -/
theorem C06_legacy_no_self_attest {ctx : Ctx} {r : Request} {p : Presentation}
    {ref : String} {a : AttrInfo} {q : Query} (hm : (ref, a) ∈ r.attrs)
    (hq : a.restrictions = some q) (hne : Query.isSelfAttested (some q) true = false)
    (hno : ref ∉ keys p.revealed ++ keys p.groups ++ keys p.unrevealed) :
    verifyLegacy ctx r p ≠ .ok true := by
  intro h
  have hns : ¬ Query.isSelfAttested a.restrictions ((keys p.selfAttested).contains ref) = true := by
    rw [hq, isSelfAttested_eq, hne, Bool.and_false]; exact Bool.false_ne_true
  obtain ⟨i, _, _, _, _, _, hi, -⟩ := C06_legacy_attr_binding h hm hq hns
  exact hno (attrIdentifierIdx_mem hi)

/-- **mixed legacy / new issuer tags**: a request whose restrictions use both `issuer_id` and
`issuer_did` (or both `schema_issuer_id` and `schema_issuer_did`) is never satisfied: `Err` -/
theorem C06_legacy_tags_mixed_rejected {ctx : Ctx} {r : Request} {p : Presentation}
    (hmix : tagsMixed r = true) : verifyLegacy ctx r p = .err := by
  rw [verifyLegacy_eq]
  refine verdict_of_pre_false ?_
  rw [preChecks, restrictionsOk, hmix]
  simp only [Bool.not_true, Bool.false_and, Bool.and_false]

/-
Full statement of value binding ("restrictions hold for the credential actually used", for the
`attr::<name>::value` tag): in an accepted presentation, if the restriction of a revealed single
attribute `n` is `attr::n::value = v`, then the credential behind the sub-proof has `encode(v)` as
the signed value of an attribute with that normal-form name.
It is false of the code: the restriction is evaluated on `raw`, and nothing ties `raw` to
`encoded` / the signed value. Proved instead: `C06_legacy_attr_binding` (the restriction holds of
the *raw* values carried by the presentation) and `C03_legacy_revealed` (the *encoded* value is the
signed one). What is missing is `encode(raw) = encoded` (known finding F15; callers must check it).
-/

/-- **F15**: value restrictions are evaluated on the unauthenticated `raw`. Request: attribute
`name` restricted by `attr::name::value = 8`. The credential's signed value of `name` is `7`; the
presentation reveals `encoded = 7` (genuine) next to `raw = 8` (invented). Accepted. -/
theorem C06_raw_unbound_refuted :
    ¬ ∀ (ctx : Ctx) (r : Request) (p : Presentation), verifyLegacy ctx r p = .ok true →
      ∀ kv ∈ r.attrs, ∀ (n tag v : String) (info : RevealedInfo) (s : SymSub),
        kv.2.name = some n → Query.internalTagName tag = some n →
        kv.2.restrictions = some (.eq tag v) →
        p.revealed.lookup kv.1 = some info → p.subs[info.idx]? = some s →
        ∃ k, Names.commonView k = Names.commonView n ∧
          s.cred.attrs.lookup k = some (Encode.encode v) := by
  intro hall
  let a : AttrInfo := { name := some "name", names := none,
                        restrictions := some (.eq "attr::name::value" "8"), nonRevoked := none }
  let r : Request := { Honest.req with attrs := [("a1", a)], preds := [] }
  let info : RevealedInfo := { idx := 0, raw := "8", encoded := "7" }
  let p : Presentation := { Honest.pres with
    revealed := [("a1", info)], unrevealed := [], predicates := [] }
  have hok : verifyLegacy Honest.ctx r p = .ok true := by decide +kernel
  obtain ⟨k, -, hsig⟩ := hall Honest.ctx r p hok ("a1", a) (List.mem_cons_self ..)
    "name" "attr::name::value" "8" info Honest.sub rfl (by decide +kernel) rfl rfl rfl
  have hno : ∀ kv ∈ Honest.sub.cred.attrs, kv.2 ≠ Encode.encode "8" := by decide +kernel
  exact hno _ (List.mem_of_lookup hsig) rfl

section Examples
open Honest

/-- the honest request with another restriction on `a1` -/
private def withA1 (q : Query) : Request :=
  { req with attrs := [("a1", ⟨some "name", none, some q, none⟩), ("a2", ⟨some "id", none, none, none⟩)] }
/-- the honest request with a restriction on predicate `p1` -/
private def withP1 (q : Query) : Request :=
  { req with preds := [("p1", ⟨"age", "GE", 18, some q, none⟩)] }

example : verifyLegacy ctx req pres = .ok true := Honest.accepted
example : ((req.attrs.lookup "a1").bind (·.restrictions)).isSome = true := by decide +kernel
example : Query.isSelfAttested (some (.eq "cred_def_id" "C")) ((keys pres.selfAttested).contains "a1")
    = false := by decide +kernel
example : verifyLegacy ctx (withA1 (.eq "cred_def_id" "D")) pres = .err := by decide +kernel
example : verifyLegacy ctx
    (withA1 (.and [.eq "schema_id" "S", .eq "issuer_id" "I", .eq "schema_name" "s"])) pres
    = .ok true := by decide +kernel
example : verifyLegacy ctx (withP1 (.eq "schema_version" "1")) pres = .ok true := by decide +kernel
example : verifyLegacy ctx (withP1 (.eq "schema_version" "2")) pres = .err := by decide +kernel
example : verifyLegacy ctx req { pres with revealed := [], selfAttested := [("a1", "x")] } = .err :=
  Honest.self_attested_restricted
-- the same referent revealed and unrevealed is rejected (F10 of DESIGN §7 was its acceptance)
example : verifyLegacy ctx req { pres with unrevealed := [("a2", 0), ("a1", 0)] } = .err := by decide +kernel
example : tagsMixed (withA1 (.or [.eq "issuer_id" "I", .eq "issuer_did" "I"])) = true := by decide +kernel
example : verifyLegacy ctx (withA1 (.eq "attr::name::value" "7")) pres = .ok true := by decide +kernel
example : verifyLegacy ctx (withA1 (.eq "attr::name::value" "8")) pres = .err := by decide +kernel
end Examples

end AnonModel.Verifier
