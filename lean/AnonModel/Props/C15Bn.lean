import AnonModel.Model.WireBn
/-!
# C15, big numbers in the binary proof value — a partial statement and the refutation of the full one (finding F22)

Full claim (what C15 asks): every revealed encoding survives the hop, `hopBin z = z`. It is false for negative `z`; what holds is
`hopBin z = |z|`. The W3C verifier compares the encoding it computes from the credential subject (`"-25"`) with the one in the
sub-proof (`25` after a hop) and rejects: an honest presentation revealing a negative integer verifies in memory only.
-/
namespace AnonModel.WireBn

theorem ofBytes_append (a : List Nat) (b : Nat) : ofBytes (a ++ [b]) = ofBytes a * 256 + b := by
  simp [ofBytes, List.foldl_append]

theorem ofBytes_natBytes (n : Nat) : ofBytes (natBytes n) = n := by
  fun_induction natBytes n with
  | case1 => rfl
  | case2 n _ ih => rw [ofBytes_append, ih]; omega

/-- **what does hold**: the magnitude survives -/
theorem C15_bn_binary_hop (z : Int) : hopBin z = (z.natAbs : Int) := by
  simp [hopBin, deBin, serBin, ofBytes_natBytes]

/-- **partial form of the C15 claim**: non-negative numbers survive the binary hop -/
theorem C15_bn_binary_hop_partial (z : Int) (h : 0 ≤ z) : hopBin z = z := by
  rw [C15_bn_binary_hop]; omega

/-- **the full claim is refuted**: a negative number does not come back (F22) -/
theorem C15_bn_binary_full_claim_refuted : ¬ ∀ z : Int, hopBin z = z := by
  intro h
  have := h (-25)
  rw [C15_bn_binary_hop] at this
  omega

/-- every negative number comes back as a different one -/
theorem C15_bn_binary_negative_changed (z : Int) (h : z < 0) : hopBin z ≠ z := by
  rw [C15_bn_binary_hop]; omega

/-- the legacy (JSON) form is not affected -/
theorem C15_bn_json_hop (z : Int) : hopJson z = z := rfl

example : hopBin (-25) = 25 := by rw [C15_bn_binary_hop]; rfl
example : hopBin 170 = 170 := by rw [C15_bn_binary_hop]; rfl
example : ofBytes [1, 2] = 258 := by decide +kernel

end AnonModel.WireBn
