import AnonModel.Lemmas.ProverDefs
/-!
# C04 — the hypotheses of an honest, successful flow (`meetsDemands`, `meetsDemandsW3C`)

Executable (Bool-valued) predicates over what the verifier supplies (`ctx`), what the prover is given
(`pc`, the selection `sel`, self-attested values `sa`) and the request `r`. Every conjunct is a named
definition; `meetsConjuncts` lists them with their names for the driver op `meets_legacy`
(`Driver/OpsMeets.lean`), which the harness runs on every generated honest flow.

What is *not* here because `createPresentation … = some p` already implies it: the selection is valid
(`PresentCredentials::validate`: referents pairwise different, timestamp iff revocation state), the
prover knows schema and credential definition of every used credential, revealed referents and
predicate referents are requested and their names are attributes of the credential, the signed
attribute names are exactly the (normalised) schema attributes, predicates hold of the signed values,
no attribute is both revealed and under a predicate in one sub-proof.
-/
namespace AnonModel.Prover
open AnonModel.Verifier AnonModel.IdealCL AnonModel.Names
open AnonModel.Query (Query)

/-! ## the verifier's context agrees with the prover's -/

/-- *same schema attribute names under each schema id*: for every used credential the verifier
supplies its schema, with the same attribute names (up to case and spaces) as the prover's -/
def schemasAgree (ctx : Ctx) (pc : PCtx) (used : List Selected) : Bool :=
  used.all (fun s =>
    match pc.schemas.lookup s.cred.schemaId, ctx.schemas.lookup s.cred.schemaId with
    | some a, some sc => sameSet (sc.attrNames.map commonView) (a.map commonView)
    | _, _ => false)

/-- *every used credential definition is supplied and its key is the one that signed the credential* -/
def credDefsAgree (ctx : Ctx) (used : List Selected) : Bool :=
  used.all (fun s =>
    match ctx.credDefs.lookup s.cred.credDefId with
    | some cd => cd.key == s.cred.sym.key
    | none => false)

/-! ## credentials are well formed -/

/-- *correctly issued*: the `values` of every used credential agree with what was signed — for every
`name ↦ (raw, encoded)` the signed value of `commonView name` is `normalizeEnc encoded` (the credential
may carry a non-canonical encoding like `"007"`; the proof reveals `"7"`) -/
def valuesSigned (used : List Selected) : Bool :=
  used.all (fun s => s.cred.values.all (fun nv =>
    s.cred.sym.attrs.lookup (commonView nv.1) == some (Encode.normalizeEnc nv.2.2)))

/-! ## the selection serves the request -/

/-- the request's attribute referents are pairwise different (it is a JSON map) -/
def requestAttrsNodup (r : Request) : Bool := noDup (keys r.attrs)

/-- *every requested attribute has `name` or `names`* -/
def namesPresent (r : Request) : Bool :=
  r.attrs.all (fun kv => kv.2.name.isSome || kv.2.names.isSome)

/-- *every requested attribute referent is served by a selection entry or is self-attested* -/
def attrsServed (r : Request) (used : List Selected) (sa : List (String × String)) : Bool :=
  r.attrs.all (fun kv => used.any (fun s => (keys s.attrs).contains kv.1) || (keys sa).contains kv.1)

/-- *every requested predicate referent is served by a selection entry* -/
def predsServed (r : Request) (used : List Selected) : Bool :=
  r.preds.all (fun kv => used.any (fun s => s.preds.contains kv.1))

/-- *no self-attested value for a referent that is not requested* -/
def selfAttestedRequested (r : Request) (sa : List (String × String)) : Bool :=
  sa.all (fun kv => (keys r.attrs).contains kv.1)

/-- *an unrevealed referent is requested, and served by a credential that has the attribute(s)*: the
verifier's schema of the serving credential has every requested name (the prover checks this for
revealed referents only) -/
def unrevealedHeld (ctx : Ctx) (r : Request) (used : List Selected) : Bool :=
  used.all (fun s => s.attrs.all (fun rr => rr.2 ||
    match r.attrs.lookup rr.1, ctx.schemas.lookup s.cred.schemaId with
    | some info, some sc => info.allNames.all (hasNorm sc.attrNames)
    | _, _ => false))

/-- the selection entry serving an attribute referent, with the holder's revealed flag -/
def servingAttr (used : List Selected) (ref : String) : Option (Selected × Bool) :=
  used.findSome? (fun s => (s.attrs.lookup ref).map (fun b => (s, b)))

/-- the value map the verifier builds for a restricted attribute referent: requested name(s) ↦ raw
value if revealed, `none` if unrevealed; no map if the referent has neither `name` nor `names` -/
def attrValueMap (s : Selected) (flag : Bool) (info : AttrInfo) : Option (List (String × Option String)) :=
  match info.name with
  | some name => some [(name, if flag then (credValue s.cred name).map (·.1) else none)]
  | none =>
    match info.names with
    | some names => some (names.map (fun n => (n, if flag then (credValue s.cred n).map (·.1) else none)))
    | none => none

/-- the restriction `q` of attribute referent `ref` is true of the credential serving it -/
def attrRestrictionMet (ctx : Ctx) (used : List Selected) (ref : String) (info : AttrInfo) (q : Query) : Bool :=
  match servingAttr used ref with
  | none => false
  | some (s, flag) =>
    match gatherFilter ctx (identOf s), attrValueMap s flag info with
    | some f, some vals => Query.eval Ident.isLegacyDid vals f q
    | _, _ => false

/-- *self-attested referents are unrestricted; a restricted referent is served by a credential whose
metadata and revealed values satisfy the restriction*: each requested attribute is self-attested and
unrestricted (`is_self_attested`), or unrestricted, or its restriction evaluates to true for the
serving credential with the value map the verifier will build -/
def attrRestrictionsMet (ctx : Ctx) (r : Request) (used : List Selected) (sa : List (String × String)) : Bool :=
  r.attrs.all (fun kv =>
    Query.isSelfAttested kv.2.restrictions ((keys sa).contains kv.1) ||
    match kv.2.restrictions with
    | none => true
    | some q => attrRestrictionMet ctx used kv.1 kv.2 q)

/-- the selection entry serving a predicate referent, with its sub-proof index -/
def servingPred (used : List Selected) (ref : String) : Option (Selected × Nat) :=
  used.zipIdx.find? (fun si => si.1.preds.contains ref)

/-- the value map the verifier builds for a restricted predicate referent served by entry `s`
(sub-proof index `i`): the predicate's attribute, unrevealed, overlaid by the raw values of every
revealed group member and revealed single attribute of the same entry (later ones in front) -/
def predValueMapOf (r : Request) (s : Selected) (i : Nat) (info : PredInfo) : List (String × Option String) :=
  ((s.attrs.flatMap (grpOf r s.cred i)).flatMap (fun kv =>
      kv.2.values.map (fun nv => (nv.1, some nv.2.1)))).reverse ++
  ((s.attrs.flatMap (revOf r s.cred i)).flatMap (fun kv =>
      match (r.attrs.lookup kv.1).bind (·.name) with
      | some name => [(name, some kv.2.raw)]
      | none => [])).reverse ++
  [(info.name, none)]

/-- *a restricted predicate referent is served by a credential that satisfies the restriction* -/
def predRestrictionsMet (ctx : Ctx) (r : Request) (used : List Selected) : Bool :=
  r.preds.all (fun kv =>
    match kv.2.restrictions with
    | none => true
    | some q =>
      match servingPred used kv.1 with
      | none => false
      | some (s, i) =>
        match gatherFilter ctx (identOf s) with
        | none => false
        | some f => Query.eval Ident.isLegacyDid (predValueMapOf r s i kv.2) f q)

/-- *no mixing of legacy and new issuer tags* (`issuer_id` with `issuer_did`, …) -/
def tagsNotMixed (r : Request) : Bool := !tagsMixed r

/-- local intervals the verifier attributes to entry `s` (sub-proof index `i`): those of its
revealed single referents, then of its revealed groups — not of unrevealed referents -/
def verifierAttrLocals (r : Request) (s : Selected) (i : Nat) : List (Option Interval.Ivl) :=
  ((s.attrs.flatMap (revOf r s.cred i)).map Prod.fst ++ (s.attrs.flatMap (grpOf r s.cred i)).map Prod.fst).map
    (fun ref => (r.attrs.lookup ref).bind (·.nonRevoked))

/-- local intervals of the predicate referents served by entry `s` -/
def verifierPredLocals (r : Request) (s : Selected) : List (Option Interval.Ivl) :=
  s.preds.map (fun ref => (r.preds.lookup ref).bind (·.nonRevoked))

/-- *the timestamp is valid for the interval the verifier demands*: for every used credential of a
revocable definition, either no interval applies (local ones on revealed / group / predicate
referents, else request-wide) or a timestamp is given and lies in it (`check_non_revoked_interval`) -/
def intervalsMet (ctx : Ctx) (r : Request) (used : List Selected) : Bool :=
  used.zipIdx.all (fun si =>
    match ctx.credDefs.lookup si.1.cred.credDefId with
    | none => false
    | some cd =>
      Interval.checkLegacy cd.revocable (Interval.foldLocals (verifierAttrLocals r si.1 si.2))
        (Interval.foldLocals (verifierPredLocals r si.1)) r.nonRevoked si.1.cred.revRegId ctx.override
        si.1.timestamp)

/-- registry definition and status list the verifier supplies for the credential's registry id and
the timestamp passed with it (the last list for that pair wins) -/
def registryFor (ctx : Ctx) (s : Selected) : Option (RevRegDefInfo × StatusListInfo) :=
  match s.cred.revRegId, s.timestamp with
  | some rid, some ts =>
    match ctx.revRegDefs, ctx.lists with
    | some defs, some ls =>
      match defs.lookup rid, findList ls rid ts with
      | some d, some l => some (d, l)
      | _, _ => none
    | _, _ => none
  | _, _ => none

/-- *registry definition and status list are supplied* for every used credential that has a registry
id and is presented with a timestamp (whether or not an interval applies) -/
def registriesSupplied (ctx : Ctx) (used : List Selected) : Bool :=
  used.all (fun s => !(s.cred.revRegId.isSome && s.timestamp.isSome) || (registryFor ctx s).isSome)

/-- *unrevoked, with a correct revocation state*: whenever the prover builds a non-revocation proof
for a used credential (an interval applies, the credential has a registry id, a state is passed), the
credential definition is revocable, the state's witness is good (`witOk`) for the registry key and
index the credential was issued at, the supplied registry definition has that registry key and the
supplied status list for (registry id, timestamp) has the state's accumulator -/
def nonRevProofsOk (ctx : Ctx) (r : Request) (used : List Selected) : Bool :=
  used.all (fun s =>
    match nrpOf r s with
    | none => true
    | some n =>
      match ctx.credDefs.lookup s.cred.credDefId, registryFor ctx s with
      | some cd, some (d, l) =>
        cd.revocable && n.witOk && d.regKey == n.regKey && l.acc == some n.acc &&
        s.cred.sym.rev == some (n.regKey, n.idx)
      | _, _ => false)

/-- *all supplied status lists are complete* (id, timestamp, accumulator) -/
def listsComplete (ctx : Ctx) : Bool := listsOk ctx

/-- the conjuncts of `meetsDemands`, named -/
def meetsConjuncts (ctx : Ctx) (pc : PCtx) (r : Request) (sel : List Selected)
    (sa : List (String × String)) : List (String × Bool) :=
  let used := usedOf sel
  [("schemasAgree", schemasAgree ctx pc used),
   ("credDefsAgree", credDefsAgree ctx used),
   ("valuesSigned", valuesSigned used),
   ("requestAttrsNodup", requestAttrsNodup r),
   ("namesPresent", namesPresent r),
   ("attrsServed", attrsServed r used sa),
   ("predsServed", predsServed r used),
   ("selfAttestedRequested", selfAttestedRequested r sa),
   ("unrevealedHeld", unrevealedHeld ctx r used),
   ("tagsNotMixed", tagsNotMixed r),
   ("attrRestrictionsMet", attrRestrictionsMet ctx r used sa),
   ("predRestrictionsMet", predRestrictionsMet ctx r used),
   ("intervalsMet", intervalsMet ctx r used),
   ("registriesSupplied", registriesSupplied ctx used),
   ("nonRevProofsOk", nonRevProofsOk ctx r used),
   ("listsComplete", listsComplete ctx)]

/-- the hypotheses of C04 (legacy format): what an honest flow satisfies besides
`createPresentation … = some p` -/
def meetsDemands (ctx : Ctx) (pc : PCtx) (r : Request) (sel : List Selected)
    (sa : List (String × String)) : Bool :=
  let used := usedOf sel
  schemasAgree ctx pc used && credDefsAgree ctx used && valuesSigned used &&
  requestAttrsNodup r && namesPresent r && attrsServed r used sa && predsServed r used &&
  selfAttestedRequested r sa && unrevealedHeld ctx r used &&
  tagsNotMixed r && attrRestrictionsMet ctx r used sa && predRestrictionsMet ctx r used &&
  intervalsMet ctx r used && registriesSupplied ctx used && nonRevProofsOk ctx r used &&
  listsComplete ctx

theorem meetsDemands_eq_all (ctx : Ctx) (pc : PCtx) (r : Request) (sel : List Selected)
    (sa : List (String × String)) :
    meetsDemands ctx pc r sel sa = (meetsConjuncts ctx pc r sel sa).all (·.2) := by
  simp only [meetsDemands, meetsConjuncts, List.all_cons, List.all_nil, Bool.and_true, Bool.and_assoc]


section W3C
open AnonModel.VerifierW3C

/-- the request's predicate referents are pairwise different (it is a JSON map) -/
def requestPredsNodup (r : Request) : Bool := noDup (keys r.preds)

/-- *the credential's issuer is the issuer of the supplied credential definition* -/
def issuersAgreeW3C (ctx : Ctx) (used : List SelectedW3C) : Bool :=
  used.all (fun s =>
    match ctx.credDefs.lookup s.cred.credDefId with
    | some cd => cd.issuerId == s.cred.issuer
    | none => false)

/-- *correctly issued*: every subject entry of a used credential is a string or a number, and the
signed value of its (normalised) name is the encoding of its string form -/
def subjectsSignedW3C (used : List SelectedW3C) : Bool :=
  used.all (fun s => s.cred.subject.all (fun kv =>
    (match kv.2 with | .bool _ => false | _ => true) &&
    s.cred.sym.attrs.lookup (commonView kv.1) == some (Encode.encode kv.2.toStr)))

/-- restriction and interval of one referent hold of the credential *derived* from entry `s`:
restrictions are evaluated with the derived credential's own subject as value map (known finding F19:
`attr::N::value` is looked up under the subject's spelling of the name), the interval check is
`check_credential_non_revoked_interval` on the entry's registry id and timestamp -/
def servedCondOkW3C (ctx : Ctx) (r : Request) (s : SelectedW3C) (restrictions : Option Query)
    (loc : Option Interval.Ivl) : Bool :=
  match buildCredentialAttributes r s with
  | some subj => conditionsOk ctx r (credOfW3C s default subj) restrictions loc
  | none => false

/-- *every requested attribute referent is served by a selection entry whose derived credential meets
the referent's restriction and non-revocation interval* (there are no self-attested attributes in
the W3C format) -/
def attrsServedW3C (ctx : Ctx) (r : Request) (used : List SelectedW3C) : Bool :=
  r.attrs.all (fun kv => used.any (fun s =>
    (keys s.attrs).contains kv.1 && servedCondOkW3C ctx r s kv.2.restrictions kv.2.nonRevoked))

/-- *every requested predicate referent is served likewise* -/
def predsServedW3C (ctx : Ctx) (r : Request) (used : List SelectedW3C) : Bool :=
  r.preds.all (fun kv => used.any (fun s =>
    s.preds.contains kv.1 && servedCondOkW3C ctx r s kv.2.restrictions kv.2.nonRevoked))

/-- the conjuncts of `meetsDemandsW3C`, named -/
def meetsConjunctsW3C (ctx : Ctx) (pc : PCtx) (r : Request) (sel : List SelectedW3C) :
    List (String × Bool) :=
  let used := usedOfW3C sel
  let usedL := used.map w3cAsSelected
  [("schemasAgree", schemasAgree ctx pc usedL),
   ("credDefsAgree", credDefsAgree ctx usedL),
   ("issuersAgree", issuersAgreeW3C ctx used),
   ("subjectsSigned", subjectsSignedW3C used),
   ("requestAttrsNodup", requestAttrsNodup r),
   ("requestPredsNodup", requestPredsNodup r),
   ("attrsServed", attrsServedW3C ctx r used),
   ("predsServed", predsServedW3C ctx r used),
   ("registriesSupplied", registriesSupplied ctx usedL),
   ("nonRevProofsOk", nonRevProofsOk ctx r usedL),
   ("listsComplete", listsComplete ctx)]

/-- the hypotheses of C04 (W3C format) -/
def meetsDemandsW3C (ctx : Ctx) (pc : PCtx) (r : Request) (sel : List SelectedW3C) : Bool :=
  let used := usedOfW3C sel
  let usedL := used.map w3cAsSelected
  schemasAgree ctx pc usedL && credDefsAgree ctx usedL && issuersAgreeW3C ctx used &&
  subjectsSignedW3C used && requestAttrsNodup r && requestPredsNodup r &&
  attrsServedW3C ctx r used && predsServedW3C ctx r used &&
  registriesSupplied ctx usedL && nonRevProofsOk ctx r usedL && listsComplete ctx

theorem meetsDemandsW3C_eq_all (ctx : Ctx) (pc : PCtx) (r : Request) (sel : List SelectedW3C) :
    meetsDemandsW3C ctx pc r sel = (meetsConjunctsW3C ctx pc r sel).all (·.2) := by
  simp only [meetsDemandsW3C, meetsConjunctsW3C, List.all_cons, List.all_nil, Bool.and_true, Bool.and_assoc]

end W3C

end AnonModel.Prover
