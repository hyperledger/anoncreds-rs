import AnonModel.Lemmas.StatusList
/-!
# C09 — the status list is a faithful state machine of the issue/revoke history

The property theorems and `specStep`, the declarative effect of one operation on the entries (helpers:
`Lemmas/StatusList.lean`; model: `Model/StatusList.lean`).

Reading of "in order": whether a request "would not change an entry" is judged against
the list the update starts from (that is what the two filters of
`update_revocation_status_list` do).  An index named in both sets is therefore issued
if it was revoked and revoked if it was valid; bits and accumulator agree on that
reading.  Statements about the accumulator are per initial mode (`byDefault`).
-/
namespace AnonModel.StatusList

/-- Declarative effect of one operation on the entries: entry `i` holding `true`
(revoked / not issued) and named in `issued` becomes `false`; entry `i` holding `false`
and named in `revoked` becomes `true`; every other entry keeps its value (`specBit`).
The list keeps its length, so indices `≥ L` name nothing. -/
def specStep (bits : List Bool) : Op → List Bool
  | .update I R _ => bits.mapIdx fun i b => specBit b (decide (i ∈ I.getD [])) (decide (i ∈ R.getD []))
  | .tsOnly _ => bits

/-- the per-entry rule, spelled out -/
theorem C09_specBit_cases (b inI inR : Bool) :
    specBit b inI inR =
      match b, inI, inR with
      | true, true, _ => false      -- revoked and requested issued: issued
      | true, false, _ => true      -- revoked, not requested issued: unchanged (a revoke request is a no-op)
      | false, _, true => true      -- valid and requested revoked: revoked
      | false, _, false => false := by  -- valid, not requested revoked: unchanged (an issue request is a no-op)
  cases b <;> cases inI <;> cases inR <;> rfl

/-- **one update, entry by entry**: the length is preserved and every existing entry
follows the rule, judged against the list the update starts from; entries that do not
exist (index `≥ L`) still do not exist. -/
theorem C09_update_entry (s : SL) (I R : Option (List Nat)) (ts : Option Nat) :
    (update s I R ts).bits.length = s.bits.length ∧
    ∀ i, (update s I R ts).bits[i]? =
      (s.bits[i]?).map fun b => specBit b (decide (i ∈ I.getD [])) (decide (i ∈ R.getD [])) :=
  ⟨length_update s I R ts, getElem?_update s I R ts⟩

/-- one operation acts on the bits as the declarative rule says -/
theorem C09_bits_step (s : SL) (op : Op) : (applyOp s op).bits = specStep s.bits op := by
  cases op with
  | tsOnly t => rfl
  | update I R t =>
    apply List.ext_getElem?
    intro i
    simp only [applyOp, specStep, getElem?_update, List.getElem?_mapIdx]

/-- **bits after any history** = fold of the declarative rule over the requests, in
order (timestamps and the accumulator play no role). -/
theorem C09_bits_spec (s : SL) (ops : List Op) :
    (final s ops).bits = ops.foldl specStep s.bits :=
  (List.foldl_hom SL.bits fun s op => (C09_bits_step s op).symm).symm

/-- the length of the list never changes -/
theorem C09_length_preserved (s : SL) (ops : List Op) : (final s ops).bits.length = s.bits.length :=
  ops.foldlRecOn (motive := fun t => t.bits.length = s.bits.length) applyOp rfl fun t ht op _ => by
    cases op with
    | tsOnly _ => exact ht
    | update I R ts => exact (length_update t I R ts).trans ht

/-- the range check inside `RevocationStatusList::update` can never fire in
`update_revocation_status_list`: the filters have already dropped every index outside
the list, so the total `update` *is* the Rust function. -/
theorem C09_update_never_errs (s : SL) (I R : Option (List Nat)) (ts : Option Nat) :
    update? s I R ts = some (update s I R ts) := update?_eq_some s I R ts

/-- requests that would not change an entry, and indices outside the registry, are
ignored by bits *and* accumulator: an update none of whose issue requests hits a
revoked entry and none of whose revoke requests hits a valid entry changes neither. -/
theorem C09_noop_requests_ignored (s : SL) (I R : Option (List Nat)) (ts : Option Nat)
    (hI : ∀ i ∈ I.getD [], s.bits[i]? ≠ some true) (hR : ∀ i ∈ R.getD [], s.bits[i]? ≠ some false) :
    (update s I R ts).bits = s.bits ∧ (update s I R ts).acc = s.acc := by
  have hi : (I.map (filterIssued s.bits)).getD [] = [] :=
    List.eq_nil_iff_forall_not_mem.mpr fun i h => (mem_getD_map_filterIssued.mp h).elim (hI i)
  have hr : (R.map (filterRevoked s.bits)).getD [] = [] :=
    List.eq_nil_iff_forall_not_mem.mpr fun i h => (mem_getD_map_filterRevoked.mp h).elim (hR i)
  exact ⟨by simp [update, setBits, setAll, hi, hr], funext fun j => by simp [update, accUpdate, hi, hr]⟩

/-- **accumulator invariant**: in every list reachable from a registry of size `L`
created in mode `byDefault`, the accumulator is
`base(mode) + Σ_{i < L, bits_i ≠ initBit(mode)} ±e_i` (`accOf`, proved by induction
over the history): by default `m_j = [1 ≤ j ≤ L] - [bits_j = 1]`, on demand
`m_j = [bits_j = 0]`.  (So position 0 revoked in a by-default registry gives `m_0 = -1`,
and index `L`, which has no position, stays at its initial value.) -/
theorem C09_acc_invariant {L : Nat} {byDefault : Bool} {s : SL} (h : Reachable L byDefault s) :
    s.bits.length = L ∧ s.acc = accOf L byDefault s.bits ∧
    (∀ j, accOf L true s.bits j = (if 1 ≤ j ∧ j ≤ L then 1 else 0) - (if s.bits[j]? = some true then 1 else 0)) ∧
    (∀ j, accOf L false s.bits j = if s.bits[j]? = some false then 1 else 0) :=
  ⟨reachable_length h, reachable_acc h, accOf_byDefault L s.bits, accOf_onDemand L s.bits⟩

/-- **path independence**: two lists of the same registry (same size, same mode) with
the same entries have the same accumulator — whatever histories led there. -/
theorem C09_acc_path_independent {L : Nat} {byDefault : Bool} {s t : SL}
    (hs : Reachable L byDefault s) (ht : Reachable L byDefault t) (hb : s.bits = t.bits) :
    s.acc = t.acc := by
  rw [reachable_acc hs, reachable_acc ht, hb]

/-- the same, for explicit histories: any two operation sequences (with repetitions,
overlapping, empty, absent or out-of-range sets, timestamp-only steps, different
creation timestamps) ending in the same entries end in the same accumulator. -/
theorem C09_acc_path_independent_runs (L : Nat) (byDefault : Bool) (ts₁ ts₂ : Option Nat)
    (ops₁ ops₂ : List Op)
    (hb : (final (create L byDefault ts₁) ops₁).bits = (final (create L byDefault ts₂) ops₂).bits) :
    (final (create L byDefault ts₁) ops₁).acc = (final (create L byDefault ts₂) ops₂).acc :=
  C09_acc_path_independent (final_reachable (.create ts₁) ops₁) (final_reachable (.create ts₂) ops₂) hb

/-- every state recorded by the runner is reachable (so the theorems above apply to
each element of a `run`) -/
theorem C09_run_reachable (L : Nat) (byDefault : Bool) (ts : Option Nat) (ops : List Op) :
    ∀ s ∈ run L byDefault ts ops, Reachable L byDefault s :=
  mem_runFrom_reachable (.create ts) ops

/-- **updates never modify the list they start from.**  In a functional model this is
true by construction (`update s …` is a new value, `s` is immutable); what can be
stated is its observable consequence: the states recorded for a history are not
disturbed by whatever is applied later.  (The Rust side — `current_list.clone()` then
mutate the clone — is checked by the harness, which compares the serialised input
list before and after the call.) -/
theorem C09_update_pure (s : SL) (ops more : List Op) :
    (runFrom s (ops ++ more)).take (ops.length + 1) = runFrom s ops ∧
    ∀ (i : Nat) (t : SL), (runFrom s ops)[i]? = some t → (runFrom s (ops ++ more))[i]? = some t :=
  ⟨runFrom_append_take s ops more, fun _ _ h => getElem?_runFrom_append h more⟩

/-- the timestamp changes only when one is supplied (and then to exactly that value);
a timestamp-only update always supplies one -/
theorem C09_timestamp_only_if_supplied (s : SL) (I R : Option (List Nat)) (t : Nat) :
    (update s I R none).ts = s.ts ∧ (update s I R (some t)).ts = some t ∧
    (updateTsOnly s t).ts = some t :=
  ⟨rfl, rfl, rfl⟩

/-- a timestamp-only update keeps entries and accumulator -/
theorem C09_ts_only_keeps_bits_acc (s : SL) (t : Nat) :
    (updateTsOnly s t).bits = s.bits ∧ (updateTsOnly s t).acc = s.acc := ⟨rfl, rfl⟩

/-- **a credential issued against a list embeds the accumulator that the list has
after the matching issue update** — for every list, size and index for which
`create_credential` succeeds (`1 ≤ k ≤ L`, position `k` exists): if entry `k` is set
(on-demand issuance) both add `k`; if it is clear (issuance by default) the issue
request is a no-op and the credential embeds the list's own accumulator. -/
theorem C09_issued_credential_embeds {L k : Nat} {s : SL} {A w : Acc}
    (h : issueAgainst L s k = some (A, w)) :
    A = (update s (some [k]) none none).acc := by
  obtain ⟨b, hb, _, _, rfl, _⟩ := issueAgainst_eq_some h
  funext j
  rw [acc_update]
  by_cases hj : j = k
  · subst hj; cases b <;> simp [accAdd_self, hb]
  · simp [accAdd_ne, hj]

example :
    let a := final (create 4 false none)
      [.update (some [1, 2]) none none, .update none (some [1]) (some 5), .update (some [1, 7]) (some [7]) none]
    let b := final (create 4 false (some 9)) [.update (some [2, 2]) (some [3]) none, .update (some [1, 1, 9]) none none]
    a.bits = b.bits ∧ a.bits = [true, false, false, true] ∧ accEqB 5 a.acc b.acc = true := by decide +kernel

example :
    let a := final (create 4 true none) [.update none (some [0, 4, 9]) none]
    a.bits = [true, false, false, false] ∧ a.acc 0 = -1 ∧ a.acc 4 = 1 ∧ a.acc 5 = 0 := by decide +kernel

example :
    (update (create 3 false none) (some [1]) (some [1]) none).bits = [true, false, true] ∧
    (update (create 3 true none) (some [1]) (some [1]) none).bits = [false, true, false] := by decide +kernel

example : (issueAgainst 3 (create 3 false none) 1).isSome = true ∧
    (issueAgainst 3 (create 3 true none) 1).isSome = true ∧
    (issueAgainst 3 (create 3 true none) 0).isSome = false ∧
    (issueAgainst 3 (create 3 true none) 3).isSome = false := by decide +kernel

example : Reachable 3 true (update (create 3 true none) none (some [0]) (some 1)) :=
  .update _ _ _ (.create _)

end AnonModel.StatusList
