import AnonModel.Lemmas.Convert
import AnonModel.Lemmas.List
import AnonModel.Props.C13
import AnonModel.Props.C20
/-!
# C14 — legacy and W3C credential forms are interchangeable

"Converting a processed credential with canonically encoded values from legacy to W3C form and
back, or from W3C to legacy and back, preserves its schema, credential-definition and registry
identifiers, its signature material, revocation data and every attribute's encoded value; …
conversion of anything that is not a well-formed AnonCreds credential is refused."

Property theorems; the lemmas about the model alone are in `Lemmas/Convert.lean`.

**Identifiers, signature material, revocation data.** `credential_to_w3c` and
`credential_from_w3c` copy `schema_id`, `cred_def_id`, `rev_reg_id`, `signature`,
`signature_correctness_proof`, `rev_reg` and `witness` field by field between the two struct
literals (`services/w3c/credential_conversion.rs`). The model (`Model/Convert.lean`) does not touch
them at all: they are not an input of `toSubject` / `subjectEncode`, only the validity facts that
`validate` derives from them are (`LegacyMeta`, `W3CMeta`). There is therefore nothing to prove
about them here; the harness compares them on real objects after each trip. What the theorems
below establish is the part that is *computed*: the attribute values.

Values are `HashMap`s in Rust and association lists here; the order of entries is an artefact of the
model that both directions happen to keep.
-/
namespace AnonModel.Convert
open AnonModel.Encode AnonModel.Flows AnonModel.VerifierW3C AnonModel.Ident

/-- every attribute's `encoded` member is `encode_credential_attribute(raw)` — what
`MakeCredentialValues::add_raw` produces and what a verifier-compatible issuer signs -/
def CanonicallyEncoded (values : Values) : Prop := ∀ nv ∈ values, nv.2.2 = Encode.encode nv.2.1

/-- name and encoded value of every attribute (the part of the values the signature covers) -/
def encodedView (values : Values) : List (String × String) := values.map (fun nv => (nv.1, nv.2.2))

/-- a raw value before and after legacy → W3C → legacy: an `i32` literal (`"007"`, `"+5"`, `"-0"`)
comes back as the canonical decimal form of its value, every other string unchanged -/
def RawAfterTrip (raw raw' : String) : Prop :=
  (∃ n, IsI32Literal raw.toList n ∧ raw' = intToDec n) ∨ ((¬ ∃ n, IsI32Literal raw.toList n) ∧ raw' = raw)

/-- a subject entry before and after W3C → legacy → W3C: a number in the `i32` range stays that
number; a string stays that string unless it is an `i32` literal, in which case it becomes the
number it denotes; a boolean never makes the trip. (The model's `.num` holds an unbounded
integer whereas Rust's is `Number(i32)`; for completeness: a number outside the range would come
back as the string of its decimal form.) -/
def ValAfterTrip : SubjVal → SubjVal → Prop
  | .num k, v' => (i32Min ≤ k ∧ k ≤ i32Max ∧ v' = .num k) ∨
                  (¬ (i32Min ≤ k ∧ k ≤ i32Max) ∧ v' = .str (intToDec k))
  | .str s, v' => (∃ n, IsI32Literal s.toList n ∧ v' = .num n) ∨
                  ((¬ ∃ n, IsI32Literal s.toList n) ∧ v' = .str s)
  | .bool _, _ => False

/-- the Rust type invariant of `CredentialAttributeValue::Number(i32)` -/
def SubjI32 (subj : Subject) : Prop := ∀ nv ∈ subj, ∀ k, nv.2 = .num k → i32Min ≤ k ∧ k ≤ i32Max

private theorem natRepr_allDigits' (m : Nat) : AllDigits (Nat.repr m).toList = true :=
  repr_toList_allDigits m

/-! ### re-reading a printed value, in the terms of C13 -/

private theorem normalizeEnc_spec (s : String) : RawAfterTrip s (normalizeEnc s) := by
  unfold normalizeEnc
  cases hp : parseI32 s.toList with
  | some n => exact Or.inl ⟨n, (C13_parseI32_spec _ _).mp hp, rfl⟩
  | none => exact Or.inr ⟨no_literal_iff.mpr hp, rfl⟩

private theorem reparse_spec (v : SubjVal) (hb : ∀ b, v ≠ .bool b) : ValAfterTrip v (reparse v.toStr) := by
  cases v with
  | bool b => exact absurd rfl (hb b)
  | num k =>
    simp only [ValAfterTrip, SubjVal.toStr, reparse, parseI32_intToDec_eq]
    by_cases hr : i32Min ≤ k ∧ k ≤ i32Max
    · rw [if_pos hr]; exact Or.inl ⟨hr.1, hr.2, rfl⟩
    · rw [if_neg hr]; exact Or.inr ⟨hr, rfl⟩
  | str s =>
    simp only [ValAfterTrip, SubjVal.toStr, reparse]
    cases hp : parseI32 s.toList with
    | some n => exact Or.inl ⟨n, (C13_parseI32_spec _ _).mp hp, rfl⟩
    | none => exact Or.inr ⟨no_literal_iff.mpr hp, rfl⟩

/-- the encoded values (names and order included) after legacy → W3C → legacy are those before,
for canonically encoded values -/
theorem encodedView_trip {values : Values} (hc : CanonicallyEncoded values) :
    (values.map (fun nv => (nv.1, (normalizeEnc nv.2.1, encode nv.2.1)))).map (fun nv => (nv.1, nv.2.2)) =
      values.map (fun nv => (nv.1, nv.2.2)) := by
  rw [List.map_map]
  exact List.map_congr_left fun nv hnv => by simp only [Function.comp, hc nv hnv]

/-! ## legacy → W3C → legacy -/

/-- **the trip computed**: converting to W3C form and encoding the subject again gives, entry by
entry in the same order, the same name, the normalised raw value and the encoding of the
original raw value. No hypothesis on `values`. -/
theorem C14_to_from_computed (values : Values) :
    subjectEncode (toSubject values) =
      some (values.map (fun nv => (nv.1, (normalizeEnc nv.2.1, encode nv.2.1)))) := by
  rw [subjectEncode_eq_some_iff, toSubject_eq, List.map_map]
  refine ⟨fun nv hnv b => ?_, List.map_congr_left fun nv _ => ?_⟩
  · obtain ⟨x, _, rfl⟩ := List.mem_map.mp hnv
    exact reparse_ne_bool _ _
  · simp only [Function.comp, encEntry, toStr_reparse, encode_normalizeEnc]

/-- **legacy → W3C → legacy keeps every attribute's encoded value**: for a credential whose
values are canonically encoded, the W3C form produced by `credential_to_w3c` converts back
(`CredentialSubject::encode`, the computed part of `credential_from_w3c`) to values with the same
names in the same order and the same encoded values. The raw values may change
(`C14_to_from_raw`). -/
theorem C14_to_from {m : LegacyMeta} {values : Values} {subj : Subject}
    (hc : CanonicallyEncoded values) (h : toW3C m values = some subj) :
    ∃ back, subjectEncode subj = some back ∧
      back.map (fun nv => (nv.1, nv.2.2)) = values.map (fun nv => (nv.1, nv.2.2)) := by
  obtain rfl := toW3C_eq_some h
  exact ⟨_, C14_to_from_computed values, encodedView_trip hc⟩

/-- the same through the whole of `credential_from_w3c`, for any W3C envelope that function
accepts -/
theorem C14_to_from_full {m : LegacyMeta} {wm : W3CMeta} {values : Values} {subj : Subject}
    (hc : CanonicallyEncoded values) (h : toW3C m values = some subj)
    (hw : w3cValid wm = true) (hs : wm.signatureProofOk = true) :
    ∃ back, fromW3C wm subj = some back ∧ encodedView back = encodedView values ∧
      CanonicallyEncoded back := by
  obtain rfl := toW3C_eq_some h
  refine ⟨values.map (fun nv => (nv.1, (normalizeEnc nv.2.1, encode nv.2.1))), ?_, ?_, ?_⟩
  · rw [fromW3C_eq, if_pos ⟨hw, hs⟩]
    exact C14_to_from_computed values
  · exact encodedView_trip hc
  · intro nv hnv
    obtain ⟨x, _, rfl⟩ := List.mem_map.mp hnv
    exact (encode_normalizeEnc _).symm

/-- **what happens to the raw values**: entry by entry, the name is kept, the raw value that comes
back is the canonical decimal when the raw value was an `i32` literal (`"007"` ↦ `"7"`) and is
unchanged otherwise, and the encoded value is the encoding of the original raw value. -/
theorem C14_to_from_raw {m : LegacyMeta} {values : Values} {subj : Subject}
    (h : toW3C m values = some subj) :
    ∃ back, subjectEncode subj = some back ∧ back.length = values.length ∧
      ∀ p ∈ values.zip back,
        p.2.1 = p.1.1 ∧ RawAfterTrip p.1.2.1 p.2.2.1 ∧ p.2.2.2 = encode p.1.2.1 := by
  obtain rfl := toW3C_eq_some h
  refine ⟨_, C14_to_from_computed values, by simp, ?_⟩
  intro p hp
  rw [List.zip_map_self _ values p hp]
  exact ⟨rfl, normalizeEnc_spec _, rfl⟩

/-- a second trip changes nothing any more: the values that came back convert to W3C form and
back to exactly themselves (raw values included). -/
theorem C14_to_from_idem {values back : Values} (h : subjectEncode (toSubject values) = some back) :
    subjectEncode (toSubject back) = some back := by
  obtain rfl := Option.some.inj ((C14_to_from_computed values).symm.trans h)
  rw [C14_to_from_computed, List.map_map]
  exact congrArg some (List.map_congr_left fun nv _ => by
    simp only [Function.comp, C13_normalize_idem, encode_normalizeEnc])

/-! ## W3C → legacy → W3C -/

/-- **W3C → legacy → W3C**: if `credential_from_w3c` accepts, then the subject had no boolean
entry, the legacy values it produced are canonically encoded, and converting them to a subject
again (`CredentialSubject::from`, the computed part of `credential_to_w3c`) gives a subject of the
same length with, entry by entry, the same name and the value described by `ValAfterTrip`:
a number (in the `i32` range) stays that number, a string stays that string unless it is an `i32`
literal, in which case it becomes the number it denotes. -/
theorem C14_from_to {wm : W3CMeta} {subj : Subject} {values : Values}
    (h : fromW3C wm subj = some values) :
    (∀ nv ∈ subj, ∀ b, nv.2 ≠ .bool b) ∧ CanonicallyEncoded values ∧
      (toSubject values).length = subj.length ∧
      ∀ p ∈ subj.zip (toSubject values), p.2.1 = p.1.1 ∧ ValAfterTrip p.1.2 p.2.2 := by
  obtain ⟨hnb, rfl⟩ := (subjectEncode_eq_some_iff _ _).mp (fromW3C_eq_some h)
  refine ⟨hnb, ?_, by simp [toSubject_eq], ?_⟩
  · intro nv hnv
    obtain ⟨x, _, rfl⟩ := List.mem_map.mp hnv
    rfl
  · intro p hp
    have hmem : p.1 ∈ subj := (List.of_mem_zip hp).1
    rw [toSubject_eq, List.map_map] at hp
    rw [List.zip_map_self _ subj p hp]
    exact ⟨rfl, reparse_spec _ (hnb _ hmem)⟩

/-- **exact identity** when there is nothing to re-represent: numbers in the `i32` range (the
Rust type's invariant) and no string that is an `i32` literal ⇒ the subject comes back as it was. -/
theorem C14_from_to_exact {wm : W3CMeta} {subj : Subject} {values : Values}
    (h : fromW3C wm subj = some values) (hi : SubjI32 subj)
    (hs : ∀ nv ∈ subj, ∀ s, nv.2 = .str s → ¬ ∃ n, IsI32Literal s.toList n) :
    toSubject values = subj := by
  obtain ⟨hnb, rfl⟩ := (subjectEncode_eq_some_iff _ _).mp (fromW3C_eq_some h)
  rw [toSubject_eq, List.map_map]
  conv => rhs; rw [← List.map_id subj]
  refine List.map_congr_left fun nv hnv => Prod.ext rfl ?_
  show reparse nv.2.toStr = nv.2
  cases hsv : nv.2 with
  | bool b => exact absurd hsv (hnb nv hnv b)
  | num k =>
    obtain ⟨hlo, hhi⟩ := hi nv hnv k hsv
    simp only [reparse, SubjVal.toStr, parseI32_intToDec hlo hhi]
  | str s => simp only [reparse, SubjVal.toStr, no_literal_iff.mp (hs nv hnv s hsv)]

/-- **idempotence after one trip**: the legacy values produced from a W3C credential convert to
W3C form and back to values with the same names, order and encoded values (in fact to exactly
the same values when they are converted once more, `C14_to_from_idem`). -/
theorem C14_from_to_from {wm : W3CMeta} {subj : Subject} {v : Values}
    (h : fromW3C wm subj = some v) :
    ∃ v', subjectEncode (toSubject v) = some v' ∧
      v'.map (fun nv => (nv.1, nv.2.2)) = v.map (fun nv => (nv.1, nv.2.2)) := by
  exact ⟨_, C14_to_from_computed v, encodedView_trip (C14_from_to h).2.1⟩

/-- `credential_to_w3c` refuses exactly the credentials that `Credential::validate` rejects. -/
theorem C14_refuses_iff_invalid (m : LegacyMeta) (values : Values) :
    toW3C m values = none ↔ legacyValid m values = false := by
  unfold toW3C
  cases legacyValid m values <;> simp

/-- **`credential_to_w3c` refuses iff**: there are no values, or the schema id, the
credential-definition id or (when present) the registry id is not a valid identifier, or a registry
id is present without witness or without `rev_reg`. -/
theorem C14_to_refuses_iff (m : LegacyMeta) (values : Values) :
    toW3C m values = none ↔
      values = [] ∨ idValid .schema m.schemaId = false ∨ idValid .credDef m.credDefId = false ∨
      (∃ r, m.revRegId = some r ∧ idValid .revRegDef r = false) ∨
      (m.revRegId.isSome = true ∧ (m.hasWitness = false ∨ m.hasRevReg = false)) := by
  rw [C14_refuses_iff_invalid, ← Bool.not_eq_true, legacyValid_iff]
  cases m.revRegId <;> simp [Decidable.imp_iff_not_or]

/-- accepted credentials, with the identifier grammar of C20 spelled out -/
theorem C14_to_accepts_iff (m : LegacyMeta) (values : Values) :
    (toW3C m values).isSome = true ↔
      values ≠ [] ∧ (IsUri m.schemaId.toList ∨ IsLegacySchemaId m.schemaId.toList) ∧
      (IsUri m.credDefId.toList ∨ IsLegacyCredDefId m.credDefId.toList) ∧
      (∀ r, m.revRegId = some r →
        (IsUri r.toList ∨ IsLegacyRevRegDefId r.toList) ∧ m.hasWitness = true ∧ m.hasRevReg = true) := by
  simp only [toW3C_isSome, legacyValid_iff, C20_id_valid_iff, Legacy]

/-- a credential without values is refused -/
theorem C14_refuses_empty (m : LegacyMeta) : toW3C m [] = none :=
  (C14_to_refuses_iff m []).mpr (Or.inl rfl)

/-- a credential whose schema id is neither a URI nor a legacy schema id is refused -/
theorem C14_refuses_bad_schema_id {m : LegacyMeta} (values : Values)
    (h : ¬ (IsUri m.schemaId.toList ∨ IsLegacySchemaId m.schemaId.toList)) : toW3C m values = none :=
  Option.not_isSome_iff_eq_none.mp fun hs => h ((C14_to_accepts_iff m values).mp hs).2.1

/-- a credential whose credential-definition id is neither a URI nor a legacy credential-definition
id is refused -/
theorem C14_refuses_bad_cred_def_id {m : LegacyMeta} (values : Values)
    (h : ¬ (IsUri m.credDefId.toList ∨ IsLegacyCredDefId m.credDefId.toList)) :
    toW3C m values = none :=
  Option.not_isSome_iff_eq_none.mp fun hs => h ((C14_to_accepts_iff m values).mp hs).2.2.1

/-- a credential whose registry id is neither a URI nor a legacy registry id is refused -/
theorem C14_refuses_bad_rev_reg_id {m : LegacyMeta} (values : Values) {r : String}
    (hr : m.revRegId = some r) (h : ¬ (IsUri r.toList ∨ IsLegacyRevRegDefId r.toList)) :
    toW3C m values = none :=
  Option.not_isSome_iff_eq_none.mp fun hs => h (((C14_to_accepts_iff m values).mp hs).2.2.2 r hr).1

/-- a credential naming a registry but lacking the witness is refused -/
theorem C14_refuses_rev_without_witness {m : LegacyMeta} (values : Values)
    (hr : m.revRegId.isSome = true) (h : m.hasWitness = false) : toW3C m values = none :=
  (C14_to_refuses_iff m values).mpr (Or.inr (Or.inr (Or.inr (Or.inr ⟨hr, Or.inl h⟩))))

/-- a credential naming a registry but lacking `rev_reg` is refused -/
theorem C14_refuses_rev_without_rev_reg {m : LegacyMeta} (values : Values)
    (hr : m.revRegId.isSome = true) (h : m.hasRevReg = false) : toW3C m values = none :=
  (C14_to_refuses_iff m values).mpr (Or.inr (Or.inr (Or.inr (Or.inr ⟨hr, Or.inr h⟩))))

/-- **`credential_from_w3c` refuses iff** the context is invalid, or the W3C type is missing, or
the credential is a data-model-1.1 credential without issuance date, or there is no AnonCreds
credential-signature proof, or some subject entry is a boolean (a predicate marker, which only a
presentation may carry). -/
theorem C14_from_refuses_iff (wm : W3CMeta) (subj : Subject) :
    fromW3C wm subj = none ↔
      wm.contextOk = false ∨ wm.hasW3CType = false ∨
      (wm.v11 = true ∧ wm.hasIssuanceDate = false) ∨
      wm.signatureProofOk = false ∨ ∃ nv ∈ subj, ∃ b, nv.2 = .bool b := by
  rw [fromW3C_eq, ← subjectEncode_eq_none_iff, ← or_assoc, ← or_assoc,
    or_assoc (a := wm.contextOk = false), ← w3cValid_eq_false_iff]
  cases w3cValid wm <;> cases wm.signatureProofOk <;> simp

/-- per clause: invalid context -/
theorem C14_refuses_bad_context {wm : W3CMeta} (subj : Subject) (h : wm.contextOk = false) :
    fromW3C wm subj = none := (C14_from_refuses_iff wm subj).mpr (Or.inl h)

/-- per clause: `type` lacks `VerifiableCredential` -/
theorem C14_refuses_missing_type {wm : W3CMeta} (subj : Subject) (h : wm.hasW3CType = false) :
    fromW3C wm subj = none := (C14_from_refuses_iff wm subj).mpr (Or.inr (Or.inl h))

/-- per clause: data model 1.1 without `issuanceDate` -/
theorem C14_refuses_v11_without_date {wm : W3CMeta} (subj : Subject) (h1 : wm.v11 = true)
    (h2 : wm.hasIssuanceDate = false) : fromW3C wm subj = none :=
  (C14_from_refuses_iff wm subj).mpr (Or.inr (Or.inr (Or.inl ⟨h1, h2⟩)))

/-- per clause: no AnonCreds credential-signature proof (none at all, a presentation proof, another
proof purpose, an undecodable proof value) -/
theorem C14_refuses_without_signature_proof {wm : W3CMeta} (subj : Subject)
    (h : wm.signatureProofOk = false) : fromW3C wm subj = none :=
  (C14_from_refuses_iff wm subj).mpr (Or.inr (Or.inr (Or.inr (Or.inl h))))

/-- per clause: a boolean subject entry -/
theorem C14_refuses_boolean_entry {wm : W3CMeta} {subj : Subject} {nv : String × SubjVal} {b : Bool}
    (hm : nv ∈ subj) (hb : nv.2 = .bool b) : fromW3C wm subj = none :=
  (C14_from_refuses_iff wm subj).mpr (Or.inr (Or.inr (Or.inr (Or.inr ⟨nv, hm, b, hb⟩))))

private def okMeta : LegacyMeta :=
  { schemaId := "mock:uri", credDefId := "mock:uri", revRegId := none, hasWitness := false, hasRevReg := false }
private def okW3C : W3CMeta :=
  { contextOk := true, hasW3CType := true, v11 := true, hasIssuanceDate := true, signatureProofOk := true }

example : toW3C okMeta [("a", ("007", "7"))] = some [("a", .num 7)] := by decide +kernel
example : subjectEncode [("a", .num 7)] = some [("a", ("7", "7"))] := by decide +kernel
example : toW3C okMeta [("a", ("+5", "5"))] = some [("a", .num 5)] := by decide +kernel
example : subjectEncode [("a", .num 5)] = some [("a", ("5", "5"))] := by decide +kernel
example : toW3C okMeta [("a", ("-0", "0"))] = some [("a", .num 0)] := by decide +kernel
example : subjectEncode [("a", .num 0)] = some [("a", ("0", "0"))] := by decide +kernel
example : toW3C okMeta [("a", ("-2147483648", "-2147483648"))] = some [("a", .num (-2147483648))] := by
  decide +kernel
example : CanonicallyEncoded [("a", ("007", "7")), ("b", ("+5", "5")), ("c", ("-0", "0"))] := by
  intro nv h
  simp only [List.mem_cons, List.not_mem_nil, or_false] at h
  rcases h with rfl | rfl | rfl <;> decide +kernel
example : RawAfterTrip "007" "7" := Or.inl ⟨7, (C13_parseI32_spec _ _).mp (by decide +kernel), by decide +kernel⟩
example : RawAfterTrip "-0" "0" := Or.inl ⟨0, (C13_parseI32_spec _ _).mp (by decide +kernel), by decide +kernel⟩
-- hash branch: the SHA-256 computation does not evaluate in the kernel; `encode` stays symbolic
example : toW3C okMeta [("a", ("2147483648", Encode.encode "2147483648"))] =
    some [("a", .str "2147483648")] := by decide +kernel
example : toW3C okMeta [("a", ("Alice", Encode.encode "Alice"))] = some [("a", .str "Alice")] := by decide +kernel
example : subjectEncode [("a", .str "Alice")] = some [("a", ("Alice", Encode.encode "Alice"))] := rfl
example : subjectEncode [("a", .str "2147483648")] =
    some [("a", ("2147483648", Encode.encode "2147483648"))] := rfl
example : CanonicallyEncoded [("a", ("Alice", Encode.encode "Alice"))] := by
  intro nv h
  simp only [List.mem_cons, List.not_mem_nil, or_false] at h
  subst h; rfl
example : RawAfterTrip "Alice" "Alice" :=
  Or.inr ⟨no_literal_iff.mpr (by decide +kernel), rfl⟩
example : RawAfterTrip "2147483648" "2147483648" :=
  Or.inr ⟨no_literal_iff.mpr (by decide +kernel), rfl⟩
-- W3C → legacy → W3C: a numeric string becomes a number; the range hypothesis of
-- `C14_from_to_exact` is needed in the model
example : fromW3C okW3C [("a", .str "007")] = some [("a", ("007", "7"))] := by decide +kernel
example : toSubject [("a", ("007", "7"))] = [("a", .num 7)] := by decide +kernel
example : toSubject [("a", (intToDec 2147483648, "x"))] = [("a", .str "2147483648")] := by decide +kernel
example : SubjI32 [("a", .num 7), ("b", .str "x")] := by
  intro nv h k hk
  simp only [List.mem_cons, List.not_mem_nil, or_false] at h
  rcases h with rfl | rfl
  · cases hk; decide +kernel
  · cases hk
example : toW3C okMeta [] = none := by decide +kernel
example : toW3C { okMeta with schemaId := "bob" } [("a", ("1", "1"))] = none := by decide +kernel
example : toW3C { okMeta with credDefId := "bob" } [("a", ("1", "1"))] = none := by decide +kernel
example : toW3C { okMeta with revRegId := some "bob", hasWitness := true, hasRevReg := true }
    [("a", ("1", "1"))] = none := by decide +kernel
example : toW3C { okMeta with revRegId := some "mock:uri", hasWitness := true, hasRevReg := false }
    [("a", ("1", "1"))] = none := by decide +kernel
example : toW3C { okMeta with revRegId := some "mock:uri", hasWitness := false, hasRevReg := true }
    [("a", ("1", "1"))] = none := by decide +kernel
example : toW3C { okMeta with revRegId := some "mock:uri", hasWitness := true, hasRevReg := true }
    [("a", ("1", "1"))] = some [("a", .num 1)] := by decide +kernel
example : fromW3C okW3C [("a", .bool true)] = none := by decide +kernel
example : fromW3C { okW3C with hasIssuanceDate := false } [("a", .num 1)] = none := by decide +kernel
example : fromW3C { okW3C with v11 := false, hasIssuanceDate := false } [("a", .num 1)] =
    some [("a", ("1", "1"))] := by decide +kernel
example : fromW3C { okW3C with signatureProofOk := false } [("a", .num 1)] = none := by decide +kernel
example : fromW3C { okW3C with contextOk := false } [("a", .num 1)] = none := by decide +kernel
example : fromW3C { okW3C with hasW3CType := false } [("a", .num 1)] = none := by decide +kernel
-- the code as it is: an empty subject is accepted by `credential_from_w3c` and yields a legacy
-- credential that `credential_to_w3c` refuses
example : fromW3C okW3C [] = some [] ∧ toW3C okMeta [] = none := by decide +kernel

end AnonModel.Convert
