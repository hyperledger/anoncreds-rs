import AnonModel.Lemmas.VerifierLegacy
/-!
# C03 (legacy format) — every value a verified presentation reveals is the value the issuer signed

Soundness direction for `Verifier.verifyLegacy` (model of `services/verifier.rs:
verify_presentation`) on top of the ideal CL functionality. "The value" is the **encoded** value:
`verify_revealed_attribute_value` compares `normalize_encoded_attr(encoded)` with the value the
sub-proof's equality proof reveals, and the (ideal) primary proof check makes that the signed one.

Not claimed, because not true of the code: the `raw` string next to `encoded` is **not
authenticated** by the verifier (nothing relates `raw` to `encoded`; a caller that wants the raw
value must re-encode it and compare — see also C06, finding F15, where restrictions are evaluated
on `raw`). Nothing in this file mentions `raw`.

Hypotheses on key uniqueness: none. `C03_legacy_revealed`, `C03_legacy_group`,
`C03_legacy_altered_rejected` quantify over *all entries* of the presentation's maps, which is what
the verifier iterates over. `C03_legacy_group_members'` (every *member* of a revealed group, not only
every requested name) rests on the check `values.len() == unique_names.len()` of
`verify_revealed_attribute_values` (/repo fix commit 21f6993; F20 of DESIGN §12.3 was the comparison
with `names.len()`, under which a request repeating a name lets an unrequested, unauthenticated
member through): every requested name is a key and there are as many members as distinct names, so
by pigeonhole the keys of the group are exactly the distinct requested names — and are unique
(`C03_legacy_group_keys`), which in the Rust `HashMap` holds by construction.
-/
namespace AnonModel.Verifier
open AnonModel.IdealCL

/-- **C03, single attributes**: for every entry of `revealed_attrs` of an accepted presentation, the
referent is a requested single attribute `n`, the sub-proof it points to is sound, and the
normalised `encoded` value is the signed value of an attribute of that credential whose name has the
same normal form as `n` -/
theorem C03_legacy_revealed {ctx : Ctx} {r : Request} {p : Presentation}
    (h : verifyLegacy ctx r p = .ok true) :
    ∀ kv ∈ p.revealed, ∃ a n s v, r.attrs.lookup kv.1 = some a ∧ a.name = some n ∧
      p.subs[kv.2.idx]? = some s ∧ SubSound ctx p kv.2.idx s ∧
      ∃ k, Names.commonView k = Names.commonView n ∧ s.cred.attrs.lookup k = some v ∧
        Encode.normalizeEnc kv.2.encoded = v := by
  rintro ⟨ref, info⟩ hm
  obtain ⟨a, n, s, ha, hn, hs, hv⟩ :=
    (revealedValuesOk_iff.mp (verifyLegacy_ok_true_iff.mp h).revealed).1 _ hm
  obtain ⟨kv, hkv, h1, h2⟩ := revealedValueOk_elim hv
  have hss := subSound_of_ok h _ s hs
  exact ⟨a, n, s, kv.2, ha, hn, hs, hss, kv.1, h1, hss.revealed_signed kv hkv, h2⟩

/-- **C03, attribute groups**: for every entry of `revealed_attr_groups` of an accepted presentation,
the referent is a requested group `names`, the sub-proof it points to is sound, the group has as
many members as *distinct* names were requested, and for every requested name the group has a member whose
normalised `encoded` value is the signed value of an attribute with the same normal-form name -/
theorem C03_legacy_group {ctx : Ctx} {r : Request} {p : Presentation}
    (h : verifyLegacy ctx r p = .ok true) :
    ∀ kv ∈ p.groups, ∃ a names s, r.attrs.lookup kv.1 = some a ∧ a.names = some names ∧
      p.subs[kv.2.idx]? = some s ∧ SubSound ctx p kv.2.idx s ∧
      kv.2.values.length = names.eraseDups.length ∧
      ∀ n ∈ names, ∃ re k v, kv.2.values.lookup n = some re ∧
        Names.commonView k = Names.commonView n ∧ s.cred.attrs.lookup k = some v ∧
        Encode.normalizeEnc re.2 = v := by
  rintro ⟨ref, g⟩ hm
  obtain ⟨a, names, s, ha, hn, hs, hlen, hv⟩ :=
    (revealedValuesOk_iff.mp (verifyLegacy_ok_true_iff.mp h).revealed).2 _ hm
  have hss := subSound_of_ok h _ s hs
  refine ⟨a, names, s, ha, hn, hs, hss, hlen, fun n hn' => ?_⟩
  obtain ⟨re, hre, hok⟩ := hv n hn'
  obtain ⟨kv, hkv, h1, h2⟩ := revealedValueOk_elim hok
  exact ⟨re, kv.1, kv.2, hre, h1, hss.revealed_signed kv hkv, h2⟩

/-- the keys of a revealed group of an accepted presentation are exactly the requested names, without
repetition (pigeonhole: as many members as distinct requested names, every requested name a key) -/
theorem C03_legacy_group_keys {ctx : Ctx} {r : Request} {p : Presentation}
    (h : verifyLegacy ctx r p = .ok true) :
    ∀ kv ∈ p.groups, ∀ a names, r.attrs.lookup kv.1 = some a → a.names = some names →
      (keys kv.2.values).Nodup ∧ ∀ n, n ∈ keys kv.2.values ↔ n ∈ names := by
  rintro ⟨ref, g⟩ hm a names ha hn
  obtain ⟨a', names', s, ha', hn', hs, -, hlen, hv⟩ := C03_legacy_group h _ hm
  simp only at ha ha' hn' hs hlen hv ⊢
  rw [ha] at ha'; cases ha'
  rw [hn] at hn'; cases hn'
  have hsub : names.eraseDups ⊆ keys g.values := by
    intro x hx
    obtain ⟨re', _, _, hre', _⟩ := hv x (List.mem_eraseDups.mp hx)
    exact List.mem_keys_of_lookup hre'
  obtain ⟨hsup, hknd⟩ :=
    List.subset_of_nodup_length (List.nodup_eraseDups names) hsub (by simp [keys, hlen])
  exact ⟨hknd, fun n => ⟨fun hk => List.mem_eraseDups.mp (hsup hk),
    fun hk => hsub (List.mem_eraseDups.mpr hk)⟩⟩

/-- **C03, every group member**: every member `(name, (raw, encoded))` of a revealed group of an
accepted presentation is one of the requested names, and its normalised `encoded` value is the
signed value of an attribute with the same normal-form name in the credential behind sub-proof
`g.idx`. (No uniqueness hypothesis on the group's keys — the Rust map is a `HashMap` — is needed
for "member" and "lookup result" to coincide: it is derived, `C03_legacy_group_keys`.) -/
theorem C03_legacy_group_members' {ctx : Ctx} {r : Request} {p : Presentation}
    (h : verifyLegacy ctx r p = .ok true) :
    ∀ kv ∈ p.groups, ∃ a names s, r.attrs.lookup kv.1 = some a ∧ a.names = some names ∧
      p.subs[kv.2.idx]? = some s ∧ SubSound ctx p kv.2.idx s ∧
      ∀ m ∈ kv.2.values, m.1 ∈ names ∧ ∃ k, Names.commonView k = Names.commonView m.1 ∧
        s.cred.attrs.lookup k = some (Encode.normalizeEnc m.2.2) := by
  rintro ⟨ref, g⟩ hm
  obtain ⟨a, names, s, ha, hn, hs, hss, -, hv⟩ := C03_legacy_group h _ hm
  obtain ⟨hknd, hkeys⟩ := C03_legacy_group_keys h _ hm a names ha hn
  refine ⟨a, names, s, ha, hn, hs, hss, ?_⟩
  rintro ⟨n, re⟩ hmem
  have hnn : n ∈ names := (hkeys n).mp (List.mem_map_of_mem hmem)
  obtain ⟨re', k, v, hre', hk, hsig, henc⟩ := hv n hnn
  cases hre'.symm.trans (List.lookup_of_mem_nodup hknd hmem)
  exact ⟨hnn, k, hk, henc ▸ hsig⟩

/-- **unrequested group member rejected**: a revealed group with a member whose name is not among
the requested `names` makes the presentation unacceptable -/
theorem C03_legacy_extra_member_rejected {ctx : Ctx} {r : Request} {p : Presentation}
    {ref : String} {g : GroupInfo} (hm : (ref, g) ∈ p.groups)
    {a : AttrInfo} {names : List String} (ha : r.attrs.lookup ref = some a)
    (hn : a.names = some names) {m : String × (String × String)} (hmem : m ∈ g.values)
    (hextra : m.1 ∉ names) : verifyLegacy ctx r p ≠ .ok true := by
  intro h
  exact hextra (((C03_legacy_group_keys h _ hm a names ha hn).2 m.1).mp (List.mem_map_of_mem hmem))

/-- **altered value rejected**: if an entry of `revealed_attrs` carries an `encoded` value such that no
attribute with the requested normal-form name of the credential behind the sub-proof it points to
has that (normalised) value as its signed value, the presentation is not accepted -/
theorem C03_legacy_altered_rejected {ctx : Ctx} {r : Request} {p : Presentation}
    {ref : String} {info : RevealedInfo} (hm : (ref, info) ∈ p.revealed)
    (hno : ∀ a n s k, r.attrs.lookup ref = some a → a.name = some n →
      p.subs[info.idx]? = some s → Names.commonView k = Names.commonView n →
      s.cred.attrs.lookup k ≠ some (Encode.normalizeEnc info.encoded)) :
    verifyLegacy ctx r p ≠ .ok true := by
  intro h
  obtain ⟨a, n, s, v, ha, hn, hs, -, k, hk, hsig, henc⟩ := C03_legacy_revealed h _ hm
  exact hno a n s k ha hn hs hk (by rw [henc]; exact hsig)

/-- **altered group value rejected**: same for a requested name of a revealed group -/
theorem C03_legacy_altered_group_rejected {ctx : Ctx} {r : Request} {p : Presentation}
    {ref : String} {g : GroupInfo} (hm : (ref, g) ∈ p.groups)
    {a : AttrInfo} {names : List String} (ha : r.attrs.lookup ref = some a)
    (hn : a.names = some names) {n : String} (hnn : n ∈ names)
    (hno : ∀ re s k, g.values.lookup n = some re → p.subs[g.idx]? = some s →
      Names.commonView k = Names.commonView n →
      s.cred.attrs.lookup k ≠ some (Encode.normalizeEnc re.2)) :
    verifyLegacy ctx r p ≠ .ok true := by
  intro h
  obtain ⟨a', names', s, ha', hn', hs, -, -, hv⟩ := C03_legacy_group h _ hm
  simp only at ha' hn' hs hv
  rw [ha] at ha'; cases ha'
  rw [hn] at hn'; cases hn'
  obtain ⟨re, k, v, hre, hk, hsig, henc⟩ := hv n hnn
  exact hno re s k hre hs hk (by rw [henc]; exact hsig)

section Examples
open Honest

example : verifyLegacy ctx req pres = .ok true := Honest.accepted
example : ("a1", ({ idx := 0, raw := "7", encoded := "7" } : RevealedInfo)) ∈ pres.revealed :=
  List.mem_cons_self ..
-- `encoded` is compared after normalisation: `+7`, `007` denote the signed `7`
example : verifyLegacy ctx req
    { pres with revealed := [("a1", { idx := 0, raw := "7", encoded := "+007" })] } = .ok true := by
  decide +kernel
example : verifyLegacy ctx req
    { pres with revealed := [("a1", { idx := 0, raw := "7", encoded := "8" })] } = .err := by decide +kernel
-- a sub-proof that reveals something else than what was signed: rejected by the CL verifier
example : verifyLegacy ctx req
    { pres with revealed := [("a1", { idx := 0, raw := "8", encoded := "8" })],
                subs := [{ sub with revealed := [("name", "8")] }] } = .ok false := by decide +kernel
-- `raw` is not authenticated: any string goes
example : verifyLegacy ctx req
    { pres with revealed := [("a1", { idx := 0, raw := "anything", encoded := "7" })] } = .ok true := by
  decide +kernel
example : verifyLegacy ctx
    { req with attrs := [("a1", { name := none, names := some ["name", "id"], restrictions := none,
                                  nonRevoked := none })] }
    { pres with revealed := [], unrevealed := [],
                groups := [("a1", { idx := 0, values := [("name", ("7", "7")), ("id", ("9", "9"))] })],
                subs := [{ sub with revealed := [("name", "7"), ("id", "9")] }] } = .ok true := by
  decide +kernel
example : verifyLegacy ctx
    { req with attrs := [("a1", { name := none, names := some ["name", "id"], restrictions := none,
                                  nonRevoked := none })] }
    { pres with revealed := [], unrevealed := [],
                groups := [("a1", { idx := 0, values := [("name", ("7", "7")), ("id", ("9", "10"))] })],
                subs := [{ sub with revealed := [("name", "7"), ("id", "9")] }] } = .err := by
  decide +kernel
example : verifyLegacy ctx
    { req with attrs := [("a1", ⟨none, some ["name", "name"], none, none⟩)], preds := [] }
    { pres with revealed := [], unrevealed := [], predicates := [],
                groups := [("a1", { idx := 0, values := [("name", ("7", "7"))] })] } = .ok true := by
  decide +kernel
-- a member no requested name covers: rejected (F20 of DESIGN §12.3 was its acceptance)
example : verifyLegacy ctx
    { req with attrs := [("a1", ⟨none, some ["name", "name"], none, none⟩)], preds := [] }
    { pres with revealed := [], unrevealed := [], predicates := [],
                groups := [("a1", { idx := 0, values := [("name", ("7", "7")), ("id", ("x", "666"))] })] }
    = .err := by decide +kernel
end Examples

end AnonModel.Verifier
