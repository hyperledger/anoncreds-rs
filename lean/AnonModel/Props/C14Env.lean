import AnonModel.Model.Envelope
import AnonModel.Props.C14Doc
/-!
# C14 — the envelope of a W3C credential: which documents are "well-formed AnonCreds credentials"

"conversion of anything that is not a well-formed AnonCreds credential is refused": `Convert.W3CMeta` summarises the
envelope in four booleans, inputs of the conversion model; here they are computed from the `@context` list, the `type` set and
the presence of `issuanceDate`, and the refusal is characterised on the document.
-/
namespace AnonModel.Envelope
open AnonModel.ProofDoc (Doc parse sigProof)

theorem version_some_iff (cs : List Ctx) (v : Ver) :
    version cs = some v ↔ ∃ t, cs = .uri (match v with | .v11 => .v11Base | .v20 => .v20Base) :: t := by
  cases cs with
  | nil => simp [version]
  | cons c t =>
    cases c with
    | obj k => simp [version]
    | uri u => cases u <;> cases v <;> simp [version]

/-- the contexts the library writes name the version they were written for -/
theorem C14_env_library_version (v : Ver) : version (libraryContexts v) = some v := by
  cases v <;> rfl

/-- **credentials the library builds are well-formed**, in both data-model versions (1.1 always gets an issuance date) -/
theorem C14_env_library_valid (v : Ver) (date : Bool) (h : v = .v11 → date = true) :
    credValid ⟨libraryContexts v, [credentialType], date⟩ = true := by
  cases v
  · have := h rfl; subst this
    simp [credValid, libraryContexts, version, ctxValid, vocab, credentialType]
  · simp [credValid, libraryContexts, version, ctxValid, vocab, credentialType]

/-- and so are the presentations -/
theorem C14_env_library_presentation_valid (v : Ver) : presValid (libraryContexts v) [presentationType] = true := by
  cases v <;> simp [presValid, libraryContexts, version, ctxValid, vocab, presentationType]

/-- **what "well-formed" means on the document**: the first context names a data-model version; a 1.1 document also lists
the data-integrity context and carries an issuance date; the issuer-dependent vocabulary is listed; the type set holds
`VerifiableCredential` -/
theorem C14_env_valid_iff (e : CredEnv) :
    credValid e = true ↔
      ∃ v, version e.contexts = some v ∧
        (v = .v11 → Ctx.uri .dataIntegrity ∈ e.contexts ∧ e.hasIssuanceDate = true) ∧
        vocab ∈ e.contexts ∧ credentialType ∈ e.types := by
  unfold credValid ctxValid
  cases hv : version e.contexts with
  | none => simp
  | some v =>
    cases v <;> simp <;> grind

/-- a document whose first context is anything but one of the two base contexts is refused, whatever follows -/
theorem C14_env_unknown_first_refused (cs : List Ctx) (ts : List String) (d : Bool) (h : version cs = none) :
    credValid ⟨cs, ts, d⟩ = false ∧ presValid cs ts = false := by
  simp [credValid, presValid, ctxValid, h]

/-- the version is read from the first entry only -/
theorem C14_env_first_decides_version (c : Ctx) (t₁ t₂ : List Ctx) : version (c :: t₁) = version (c :: t₂) := by
  cases c with
  | obj k => rfl
  | uri u => cases u <;> rfl

/-- behind the first entry neither order nor repetition matters -/
theorem C14_env_tail_order_irrelevant (c : Ctx) (t₁ t₂ : List Ctx) (ts : List String) (d : Bool)
    (h : ∀ x, x ∈ t₁ ↔ x ∈ t₂) :
    credValid ⟨c :: t₁, ts, d⟩ = credValid ⟨c :: t₂, ts, d⟩ ∧ presValid (c :: t₁) ts = presValid (c :: t₂) ts := by
  have hm : ∀ x, x ∈ c :: t₁ ↔ x ∈ c :: t₂ := by
    intro x; simp [h x]
  have hv := C14_env_first_decides_version c t₁ t₂
  simp only [credValid, presValid, ctxValid, hv, List.contains_eq_mem, hm, and_self]

/-! ## the conversion model with all its envelope inputs computed from the document -/

/-- the summary `credential_from_w3c` works with, computed from envelope and `proof` member -/
def metaOf (e : CredEnv) (d : Doc) : Convert.W3CMeta :=
  { contextOk := ctxValid e.contexts
    hasW3CType := e.types.contains credentialType
    v11 := version e.contexts == some .v11
    hasIssuanceDate := e.hasIssuanceDate
    signatureProofOk := (sigProof (parse d)).isSome }

/-- the summary the conversion model takes as input, computed from the stored document, is valid exactly when the envelope is -/
theorem C14_env_meta_valid (e : CredEnv) (d : Doc) : Convert.w3cValid (metaOf e d) = credValid e := by
  unfold Convert.w3cValid metaOf credValid ctxValid
  cases hv : version e.contexts with
  | none => simp
  | some v => cases v <;> simp

/-- `credential_from_w3c` on a stored document -/
def fromW3CStored (e : CredEnv) (d : Doc) (subj : Convert.Subject) : Option Convert.Values :=
  Convert.fromW3C (metaOf e d) subj

/-- **refusal, on the document**: conversion is refused exactly when the envelope is not well-formed, or the first
AnonCreds proof of the `proof` member is not a credential signature, or the subject holds a value that cannot be encoded -/
theorem C14_env_conversion_refused_iff (e : CredEnv) (d : Doc) (subj : Convert.Subject) :
    fromW3CStored e d subj = none ↔
      credValid e = false ∨ sigProof (parse d) = none ∨ Convert.subjectEncode subj = none := by
  unfold fromW3CStored Convert.fromW3C
  rw [C14_env_meta_valid]
  cases hc : credValid e <;> cases hs : sigProof (parse d) <;> simp [metaOf, hs]

/-- a stored credential the library built converts back as the conversion functions say -/
theorem C14_env_stored_library_credential (v : Ver) (date : Bool) (h : v = .v11 → date = true) (i : Nat)
    (subj : Convert.Subject) (d : Doc) (hd : ProofDoc.emit (ProofDoc.newCredential i) = some d) :
    fromW3CStored ⟨libraryContexts v, [credentialType], date⟩ d subj = Convert.subjectEncode subj := by
  unfold fromW3CStored Convert.fromW3C
  rw [C14_env_meta_valid, C14_env_library_valid v date h]
  simp [metaOf, ProofDoc.sigProof_of_new hd]

example : credValid ⟨[.uri .v20Base, .obj 3, vocab, .uri (.other 1)], ["X", credentialType], false⟩ = true := by decide +kernel
example : credValid ⟨[.uri .dataIntegrity, .uri .v11Base, vocab], [credentialType], true⟩ = false := by decide +kernel
example : credValid ⟨[.uri .v11Base, vocab], [credentialType], true⟩ = false := by decide +kernel

end AnonModel.Envelope
