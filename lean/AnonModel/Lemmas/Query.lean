import AnonModel.Lemmas.Assoc
import AnonModel.Lemmas.MapM
import AnonModel.Model.Query
/-!
Restriction syntax (C16) and the vocabulary of restriction evaluation (C06). Everything `parseRestriction`
returns satisfies `Good` (`parse_good`, an instance of `parse_induct`: one case per branch of the parser
that returns something), and on `Good` queries `parseRestriction ∘ print` is the identity (by induction on
the query), so `Good` is exactly the image of the parser. `IsInternalTag`, `IsMarkerShaped` and `LeafSat`
say what a leaf of the evaluation means; that `process_filter` computes them is `C06_leaf_spec`.
-/
namespace AnonModel.Query
open AnonModel.Json

theorem printList_eq_map (l : List Query) : printList l = l.map print := by
  induction l with
  | nil => simp [printList]
  | cons q r ih => simp [printList, ih]

theorem namesList_eq (l : List Query) : namesList l = l.flatMap names := by
  induction l with
  | nil => simp [namesList]
  | cons q r ih => simp [namesList, ih]

section
variable (ld : String → Bool) (vals : List (String × Option String)) (f : Filter)

theorem evalAll_eq (l : List Query) : evalAll ld vals f l = l.all (eval ld vals f) := by
  induction l with
  | nil => simp [evalAll]
  | cons q r ih => simp [evalAll, ih]

theorem evalAny_eq (l : List Query) : evalAny ld vals f l = l.any (eval ld vals f) := by
  induction l with
  | nil => simp [evalAny]
  | cons q r ih => simp [evalAny, ih]

theorem validateAll_eq (isUri : String → Bool) (v1 : Bool) (l : List Query) :
    validateAll isUri v1 l = l.all (validateQuery isUri v1) := by
  induction l with
  | nil => simp [validateAll]
  | cons q r ih => simp [validateAll, ih]

end

theorem Query.induct {P : Query → Prop}
    (and : ∀ l, (∀ q ∈ l, P q) → P (.and l))
    (or : ∀ l, (∀ q ∈ l, P q) → P (.or l))
    (not : ∀ q, P q → P (.not q))
    (eq : ∀ k v, P (.eq k v)) (neq : ∀ k v, P (.neq k v))
    (gt : ∀ k v, P (.gt k v)) (gte : ∀ k v, P (.gte k v))
    (lt : ∀ k v, P (.lt k v)) (lte : ∀ k v, P (.lte k v))
    (like : ∀ k v, P (.like k v)) (isIn : ∀ k vs, P (.isIn k vs))
    (exist : ∀ ks, P (.exist ks)) : ∀ q, P q := by
  intro q
  exact Query.rec (motive_1 := P) (motive_2 := fun l => ∀ q ∈ l, P q)
    and or not eq neq gt gte lt lte like isIn exist
    (by simp) (fun q r hq hr => by simpa using ⟨hq, hr⟩) q

/-- keys with a meaning of their own in `parse_operator` -/
def reserved : List String := ["$and", "$or", "$not", "$exist"]

theorem not_reserved_iff {k : String} :
    k ∉ reserved ↔ k ≠ "$and" ∧ k ≠ "$or" ∧ k ≠ "$not" ∧ k ≠ "$exist" := by
  simp [reserved]

mutual
/-- what the parser returns (`parseRestriction_good`), and all of it: a `Good` query is
returned for its own printing (`parse_print_of_good`). `Or` and `Exist` lists are never
empty, and no leaf has one of the four reserved keys as its tag. `And` lists of any
length (empty, singleton) are fine. -/
def Good : Query → Prop
  | .and l => GoodL l
  | .or l => l ≠ [] ∧ GoodL l
  | .not q => Good q
  | .eq k _ => k ∉ reserved
  | .neq k _ => k ∉ reserved
  | .gt k _ => k ∉ reserved
  | .gte k _ => k ∉ reserved
  | .lt k _ => k ∉ reserved
  | .lte k _ => k ∉ reserved
  | .like k _ => k ∉ reserved
  | .isIn k _ => k ∉ reserved
  | .exist ks => ks ≠ []
def GoodL : List Query → Prop
  | [] => True
  | q :: r => Good q ∧ GoodL r
end

theorem goodL_iff (l : List Query) : GoodL l ↔ ∀ q ∈ l, Good q := by
  induction l with
  | nil => simp [GoodL]
  | cons q r ih => simp [GoodL, ih]

theorem good_finish {ops : List Query} (h : GoodL ops) : Good (finish ops) := by
  unfold finish
  split
  · simp [GoodL] at h; exact h
  · simpa [Good] using h

/-- one case per branch of `parse_operator`, `parse_query`, `parse_list_operators` that
returns something: what holds of each, given that it holds of the parts, holds of every
successful parse. The branches that fail, and the order in which the keys are tested, are
dealt with here once. -/
theorem parse_induct {P : String → Json → Option Query → Prop}
    {PE : List (String × Json) → List Query → Prop} {PL : List Json → List Query → Prop}
    (and_nil : P "$and" (.arr []) none)
    (and : ∀ vs l, vs ≠ [] → parseListOperators vs = some l → PL vs l →
      P "$and" (.arr vs) (some (.and l)))
    (or_nil : P "$or" (.arr []) none)
    (or : ∀ vs l, vs ≠ [] → parseListOperators vs = some l → PL vs l →
      P "$or" (.arr vs) (some (.or l)))
    (exist_nil : P "$exist" (.arr []) none)
    (exist : ∀ vs ks, vs ≠ [] → strList? vs = some ks → P "$exist" (.arr vs) (some (.exist ks)))
    (not : ∀ m ops, parseEntries m = some ops → PE m ops →
      P "$not" (.obj m) (some (.not (finish ops))))
    (cmp : ∀ k op x q, k ∉ reserved → parseSingleOperator op k x = some q →
      P k (.obj [(op, x)]) (some q))
    (exist_str : ∀ s, P "$exist" (.str s) (some (.exist [s])))
    (eq : ∀ k s, k ∉ reserved → P k (.str s) (some (.eq k s)))
    (lnil : PL [] [])
    (lcons : ∀ m r ops qs, parseEntries m = some ops → parseListOperators r = some qs →
      PE m ops → PL r qs → PL (.obj m :: r) (finish ops :: qs))
    (nil : PE [] [])
    (cons : ∀ k v r o qs, parseOperator k v = some o → parseEntries r = some qs → P k v o →
      PE r qs → PE ((k, v) :: r) (o.toList ++ qs)) :
    (∀ k j, ∀ o, parseOperator k j = some o → P k j o) ∧
    (∀ m, ∀ ops, parseEntries m = some ops → PE m ops) ∧
    (∀ vs, ∀ l, parseListOperators vs = some l → PL vs l) := by
  -- every branch: rewrite the result with what the branch knows; the failing ones are gone
  apply parseOperator.mutual_induct <;> intros <;> rename_i h <;>
    simp [parseOperator, parseEntries, parseListOperators, *] at h <;> subst h <;>
    (try simp only [List.isEmpty_iff, ← ne_eq] at *) <;> subst_vars
  -- left are the fourteen branches that return something, under the numbers `mutual_induct`
  -- gives them (the order of the branches in the three definitions)
  case case1 => exact and_nil
  case case2 ih _ => exact and _ _ ‹_› ‹_› (ih _ ‹_›)
  case case4 => exact or_nil
  case case5 ih _ => exact or _ _ ‹_› ‹_› (ih _ ‹_›)
  case case8 => exact exist_nil
  case case9 => exact exist _ _ ‹_› ‹_›
  case case14 ih => exact not _ _ ‹_› (ih _ ‹_›)
  case case17 => exact cmp _ _ _ _ (not_reserved_iff.mpr ⟨‹_›, ‹_›, ‹_›, ‹_›⟩) ‹_›
  case case23 => exact exist_str _
  case case24 => exact eq _ _ (not_reserved_iff.mpr ⟨‹_›, ‹_›, ‹_›, ‹_›⟩)
  case case26 => exact lnil
  case case29 h1 _ h2 ih2 ih1 => exact lcons _ _ _ _ h1 h2 (ih2 _ h1) (ih1 _ h2)
  case case31 => exact nil
  case case34 o h1 _ h2 ih2 ih1 =>
    have := cons _ _ _ _ _ h1 h2 (ih2 _ h1) (ih1 _ h2)
    cases o <;> exact this

theorem parseSingleOperator_good {op key : String} {x : Json} {q : Query}
    (hk : key ∉ reserved) : parseSingleOperator op key x = some q → Good q := by
  fun_cases parseSingleOperator op key x <;> intro h <;> cases h <;> exact hk

theorem strList?_eq_some_iff {vs : List Json} {l : List String} :
    strList? vs = some l ↔ vs = l.map Json.str := by
  induction vs generalizing l with
  | nil => cases l <;> simp [strList?]
  | cons j r ih =>
    cases j with
    | str s =>
      cases l with
      | nil => cases h : strList? r <;> simp [strList?, h]
      | cons a l => cases h : strList? r <;> simp [strList?, h, ← ih, eq_comm]
    | _ => cases l <;> simp [strList?]

theorem parse_good :
    (∀ k j, ∀ o, parseOperator k j = some o → ∀ q, o = some q → Good q) ∧
    (∀ m, ∀ ops, parseEntries m = some ops → GoodL ops) ∧
    (∀ vs, ∀ l, parseListOperators vs = some l → GoodL l ∧ (vs ≠ [] → l ≠ [])) :=
  parse_induct
    (and_nil := nofun) (or_nil := nofun) (exist_nil := nofun)
    (and := fun _ _ _ _ h _ e => by cases e; exact h.1)
    (or := fun _ _ hne _ h _ e => by cases e; exact ⟨h.2 hne, h.1⟩)
    (exist := fun _ _ hne hks _ e => by
      cases e; rw [strList?_eq_some_iff] at hks; subst hks; simpa [Good] using hne)
    (not := fun _ _ _ h _ e => by cases e; exact good_finish h)
    (cmp := fun _ _ _ _ hk h _ e => by cases e; exact parseSingleOperator_good hk h)
    (exist_str := fun _ _ e => by cases e; simp [Good])
    (eq := fun _ _ hk _ e => by cases e; exact hk)
    (lnil := ⟨trivial, fun h => absurd rfl h⟩)
    (lcons := fun _ _ _ _ _ _ h1 h2 => ⟨⟨good_finish h1, h2.1⟩, fun _ => nofun⟩)
    (nil := trivial)
    (cons := fun _ _ _ o _ _ _ h1 h2 => by
      cases o with
      | none => exact h2
      | some q => exact ⟨h1 q rfl, h2⟩)

theorem parseOperator_good : ∀ (j : Json) (key : String) (q : Query),
    parseOperator key j = some (some q) → Good q :=
  fun j key q h => parse_good.1 key j _ h q rfl

theorem parseEntries_good : ∀ (m : List (String × Json)) (ops : List Query),
    parseEntries m = some ops → GoodL ops :=
  parse_good.2.1

theorem parseListOperators_good : ∀ (vs : List Json) (l : List Query),
    parseListOperators vs = some l → GoodL l :=
  fun vs l h => (parse_good.2.2 vs l h).1

theorem strList?_map_str (vs : List String) : strList? (vs.map Json.str) = some vs :=
  strList?_eq_some_iff.mpr rfl

theorem parseQuery_eq_map (m : List (String × Json)) :
    parseQuery m = (parseEntries m).map finish := by
  unfold parseQuery; cases parseEntries m <;> rfl

/-- what `parse_list_operators` does to each member: an object is parsed by `parse_query` -/
def parseMember : Json → Option Query
  | .obj m => parseQuery m
  | _ => none

theorem parseListOperators_eq_mapM (vs : List Json) :
    parseListOperators vs = vs.mapM parseMember := by
  induction vs with
  | nil => rfl
  | cons j r ih =>
    cases j <;> simp [parseListOperators, parseMember, ← ih, parseQuery_eq_map]
    cases parseEntries _ <;> cases parseListOperators r <;> rfl

theorem parseQuery_single_some {k : String} {v : Json} {q : Query}
    (h : parseOperator k v = some (some q)) : parseQuery [(k, v)] = some q := by
  simp [parseQuery, parseEntries, h, finish]

theorem parseQuery_single_none {k : String} {v : Json}
    (h : parseOperator k v = some none) : parseQuery [(k, v)] = some (.and []) := by
  simp [parseQuery, parseEntries, h, finish]

theorem print_isObj (q : Query) : ∃ m, print q = .obj m := by
  cases q with
  | and l => cases l <;> simp [print]
  | or l => cases l <;> simp [print]
  | _ => simp [print]

theorem parseMember_print (q : Query) : parseMember (print q) = parseRestriction (print q) := by
  obtain ⟨m, hm⟩ := print_isObj q
  rw [hm]; rfl

theorem parseListOperators_printList (l : List Query)
    (h : ∀ q ∈ l, parseRestriction (print q) = some q) :
    parseListOperators (printList l) = some l := by
  rw [printList_eq_map, parseListOperators_eq_mapM]
  exact List.mapM_map_of_inverse l fun q hq => (parseMember_print q).trans (h q hq)

theorem printList_ne_nil {q : Query} {r : List Query} : (print q :: printList r).isEmpty = false := rfl

theorem parse_print_of_good : ∀ q, Good q → parseRestriction (print q) = some q := by
  intro q
  induction q using Query.induct with
  | and l ih =>
    intro hg
    cases l with
    | nil => rfl
    | cons q r =>
      have : parseListOperators (print q :: printList r) = some (q :: r) :=
        parseListOperators_printList (q :: r) fun x hx => ih x hx ((goodL_iff _).mp hg x hx)
      exact parseQuery_single_some (by simp [parseOperator, this])
  | or l ih =>
    intro hg
    cases l with
    | nil => exact absurd rfl hg.1
    | cons q r =>
      have : parseListOperators (print q :: printList r) = some (q :: r) :=
        parseListOperators_printList (q :: r) fun x hx => ih x hx ((goodL_iff _).mp hg.2 x hx)
      exact parseQuery_single_some (by simp [parseOperator, this])
  | not q ih =>
    intro hg
    obtain ⟨m, hm⟩ := print_isObj q
    have := ih hg
    rw [hm, parseRestriction, parseQuery_eq_map, Option.map_eq_some_iff] at this
    obtain ⟨ops, hops, rfl⟩ := this
    exact parseQuery_single_some (by simp [hm, parseOperator, hops])
  | eq k v | neq k v | gt k v | gte k v | lt k v | lte k v | like k v | isIn k vs =>
    intro hg
    exact parseQuery_single_some
      (by simp [parseOperator, parseSingleOperator, not_reserved_iff.mp hg, strList?_map_str])
  | exist ks =>
    intro hg
    cases ks with
    | nil => exact absurd rfl hg
    | cons a r =>
      have : strList? (.str a :: r.map .str) = some (a :: r) := strList?_map_str (a :: r)
      exact parseQuery_single_some (by simp [parseOperator, this])

theorem parseRestriction_good {j : Json} {q : Query} (h : parseRestriction j = some q) : Good q := by
  have hq : ∀ m q, parseQuery m = some q → Good q := by
    intro m q h
    obtain ⟨ops, hops, rfl⟩ := Option.map_eq_some_iff.mp (parseQuery_eq_map m ▸ h)
    exact good_finish (parseEntries_good m ops hops)
  cases j with
  | obj m => exact hq m q h
  | arr a =>
    simp only [parseRestriction] at h
    split at h
    · simp at h
    · exact hq _ q h
  | _ => simp [parseRestriction] at h

/-! ## success, one step at a time -/

def AllObj (vs : List Json) : Prop := ∀ j ∈ vs, ∃ m, j = Json.obj m
def AllStr (vs : List Json) : Prop := ∀ j ∈ vs, ∃ s, j = Json.str s

def cmpOps : List String := ["$neq", "$gt", "$gte", "$lt", "$lte", "$like"]

theorem strList?_isSome_iff (vs : List Json) : (strList? vs).isSome ↔ AllStr vs := by
  fun_induction strList? vs <;> simp_all [AllStr]

theorem parseSingleOperator_isSome_iff (op key : String) (x : Json) :
    (parseSingleOperator op key x).isSome ↔
      (op ∈ cmpOps ∧ ∃ s, x = Json.str s) ∨ (op = "$in" ∧ ∃ vs, x = Json.arr vs ∧ AllStr vs) := by
  fun_cases parseSingleOperator op key x <;> simp_all [cmpOps, ← strList?_isSome_iff]

theorem parseEntries_isSome_iff (m : List (String × Json)) :
    (parseEntries m).isSome ↔ ∀ kv ∈ m, (parseOperator kv.1 kv.2).isSome := by
  induction m with
  | nil => simp [parseEntries]
  | cons kv r ih =>
    simp only [parseEntries, List.forall_mem_cons, ← ih]
    cases parseOperator kv.1 kv.2 <;> cases parseEntries r <;> simp

theorem parseQuery_isSome_iff (m : List (String × Json)) :
    (parseQuery m).isSome ↔ (parseEntries m).isSome := by
  simp [parseQuery_eq_map]

theorem parseListOperators_isSome_iff (vs : List Json) :
    (parseListOperators vs).isSome ↔
      AllObj vs ∧ ∀ m, Json.obj m ∈ vs → (parseEntries m).isSome := by
  have hm : ∀ j, (parseMember j).isSome ↔ ∃ m, j = .obj m ∧ (parseEntries m).isSome := fun j => by
    cases j <;> simp [parseMember, parseQuery_isSome_iff]
  simp only [parseListOperators_eq_mapM, List.mapM_isSome_iff, hm, AllObj]
  exact ⟨fun h => ⟨fun j hj => (h j hj).imp fun _ => And.left, fun m hm => by simpa using h _ hm⟩,
    fun ⟨ho, h⟩ j hj => by obtain ⟨m, rfl⟩ := ho j hj; exact ⟨m, rfl, h m hj⟩⟩

theorem parseOperator_isSome_iff (key : String) (j : Json) :
    (parseOperator key j).isSome ↔
      match j with
      | .arr vs => ((key = "$and" ∨ key = "$or") ∧ (parseListOperators vs).isSome) ∨
                   (key = "$exist" ∧ AllStr vs)
      | .obj m => (key = "$not" ∧ (parseEntries m).isSome) ∨
                  (key ∉ reserved ∧ ∃ op x, m = [(op, x)] ∧ (parseSingleOperator op key x).isSome)
      | .str _ => key ≠ "$and" ∧ key ≠ "$or" ∧ key ≠ "$not"
      | _ => False := by
  fun_cases parseOperator key j <;>
    simp_all [reserved, ← strList?_isSome_iff, strList?, parseListOperators]
  -- left over: an object with the one entry `(op, x)` under a key that is not reserved, where `parseSingleOperator` succeeds
  case case17 h => exact ⟨_, _, ⟨rfl, rfl⟩, by simp [h]⟩

theorem stripPrefix_eq_some_iff (p l rest : List Char) :
    stripPrefix p l = some rest ↔ l = p ++ rest := by
  fun_induction stripPrefix p l <;> simp_all [eq_comm]

/-- `tag` is `attr::<n>::value` or `attr::<n>::marker` with `n` non-empty and free of `:`
— a match of `INTERNAL_TAG_MATCHER` with capture group 1 equal to `n` -/
def IsInternalTag (tag n : String) : Prop :=
  n ≠ "" ∧ ':' ∉ n.toList ∧ (tag = "attr::" ++ n ++ "::value" ∨ tag = "attr::" ++ n ++ "::marker")

theorem hasKey_iff_lookup (vals : List (String × Option String)) (n : String) :
    hasKey vals n = true ↔ ∃ v, vals.lookup n = some v := by
  rw [show hasKey vals n = true ↔ n ∈ vals.map Prod.fst by simp [hasKey]]
  exact ⟨List.lookup_of_mem_keys, fun ⟨_, h⟩ => List.mem_keys_of_lookup h⟩

/-- `tag` starts with `attr::` and ends with `::marker` (`is_attr_operator`) -/
def IsMarkerShaped (tag : String) : Prop :=
  "attr::".toList <+: tag.toList ∧ "::marker".toList <:+ tag.toList

theorem isAttrOperator_iff (tag : String) : isAttrOperator tag = true ↔ IsMarkerShaped tag := by
  simp [isAttrOperator, IsMarkerShaped, List.isSuffixOf_iff_suffix]

/-- declarative meaning of one equality test `tag = value` against a credential
(`f`) and the values revealed under the referent (`vals`) -/
def LeafSat (ld : String → Bool) (vals : List (String × Option String)) (f : Filter)
    (tag value : String) : Prop :=
  (tag = "schema_id" ∧ f.schemaId = value) ∨
  (tag = "schema_issuer_id" ∧ f.schemaIssuerId = value) ∨
  (tag = "schema_issuer_did" ∧ ld f.schemaIssuerId = true ∧ f.schemaIssuerId = value) ∨
  (tag = "schema_name" ∧ f.schemaName = value) ∨
  (tag = "schema_version" ∧ f.schemaVersion = value) ∨
  (tag = "cred_def_id" ∧ f.credDefId = value) ∨
  (tag = "issuer_id" ∧ f.issuerId = value) ∨
  (tag = "issuer_did" ∧ ld f.issuerId = true ∧ f.issuerId = value) ∨
  (∃ n, IsInternalTag tag n ∧ (vals.lookup n = some none ∨ vals.lookup n = some (some value))) ∨
  (IsMarkerShaped tag ∧ ¬ ∃ n, IsInternalTag tag n ∧ hasKey vals n = true)

theorem attrPrefix_of_internal {tag n : String} (h : IsInternalTag tag n) :
    "attr::".toList <+: tag.toList := by
  obtain ⟨_, _, h | h⟩ := h <;> (subst h; simp only [String.toList_append, List.append_assoc]; exact List.prefix_append _ _)

theorem attrPrefix_of_marker {tag : String} (h : IsMarkerShaped tag) :
    "attr::".toList <+: tag.toList := h.1

def metaTags : List String :=
  ["schema_id", "schema_issuer_did", "schema_issuer_id", "schema_name", "schema_version",
   "cred_def_id", "issuer_did", "issuer_id"]

theorem not_attrPrefix_of_meta {tag : String} (h : tag ∈ metaTags) :
    ¬ "attr::".toList <+: tag.toList := by
  rw [← List.isPrefixOf_iff_prefix]
  simp only [metaTags, List.mem_cons, List.not_mem_nil, or_false] at h
  rcases h with rfl | rfl | rfl | rfl | rfl | rfl | rfl | rfl <;>
    rw [String.toList_ofList, String.toList_ofList] <;> decide

theorem not_attr_of_meta {tag : String} (hm : tag ∈ metaTags) :
    (∀ n, ¬ IsInternalTag tag n) ∧ ¬ IsMarkerShaped tag :=
  ⟨fun _ h => not_attrPrefix_of_meta hm (attrPrefix_of_internal h),
    fun h => not_attrPrefix_of_meta hm h.1⟩

/-! ## printed values are well-formed JSON objects (keys sorted, unique) -/

theorem wfList_eq (l : List Json) : wfList l = l.all Json.WF := by
  induction l with
  | nil => simp [wfList]
  | cons j r ih => simp [wfList, ih]

theorem wfEntries_eq (m : List (String × Json)) : wfEntries m = m.all (·.2.WF) := by
  induction m with
  | nil => rfl
  | cons kv r ih => simp [wfEntries, ih]

theorem wfList_strs (vs : List String) : wfList (vs.map Json.str) = true := by
  induction vs with
  | nil => rfl
  | cons a r ih => simp [wfList, Json.WF, ih]

theorem print_wf (q : Query) : (print q).WF = true := by
  induction q using Query.induct with
  | and l ih | or l ih =>
    cases l with
    | nil => rfl
    | cons a r =>
      have : wfList (print a :: printList r) = true := by
        rw [← printList, wfList_eq, printList_eq_map, List.all_map]
        exact List.all_eq_true.mpr ih
      simp [print, Json.WF, wfEntries, keysSorted, this]
  | not q ih => simp [print, Json.WF, wfEntries, keysSorted, ih]
  | isIn k vs => simp [print, Json.WF, wfEntries, keysSorted, wfList_strs]
  | exist ks => simp [print, Json.WF, wfEntries, keysSorted, wfList_strs]
  | _ => simp [print, Json.WF, wfEntries, keysSorted]

end AnonModel.Query
