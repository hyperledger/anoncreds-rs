import AnonModel.Model.Convert
import AnonModel.Lemmas.MapM
/-!
Conversion between the two credential forms (`Model/Convert.lean`): each function of the model as
its checks in front of what it computes, and the two value maps entry by entry.
-/

/-- what `CredentialSubject::encode` makes of one string / number entry -/
def AnonModel.Flows.encEntry (nv : String × AnonModel.VerifierW3C.SubjVal) : String × (String × String) :=
  (nv.1, (nv.2.toStr, AnonModel.Encode.encode nv.2.toStr))

namespace AnonModel.Convert
open AnonModel.VerifierW3C AnonModel.Encode AnonModel.Ident AnonModel.Flows

theorem toW3C_isSome (m : LegacyMeta) (values : Values) :
    (toW3C m values).isSome = legacyValid m values := by
  unfold toW3C; cases legacyValid m values <;> rfl

theorem toW3C_eq_some {m : LegacyMeta} {values : Values} {subj : Subject}
    (h : toW3C m values = some subj) : subj = toSubject values := by
  simp only [toW3C, Option.ite_none_right_eq_some, Option.some.injEq] at h
  exact h.2.symm

/-- what `Credential::validate` demands -/
theorem legacyValid_iff (m : LegacyMeta) (values : Values) :
    legacyValid m values = true ↔
      values ≠ [] ∧ idValid .schema m.schemaId = true ∧ idValid .credDef m.credDefId = true ∧
      ∀ r, m.revRegId = some r →
        idValid .revRegDef r = true ∧ m.hasWitness = true ∧ m.hasRevReg = true := by
  unfold legacyValid
  cases values <;> cases m.revRegId <;> simp [and_assoc]

/-- `credential_from_w3c` is `CredentialSubject::encode` behind two checks -/
theorem fromW3C_eq (wm : W3CMeta) (subj : Subject) :
    fromW3C wm subj =
      if w3cValid wm = true ∧ wm.signatureProofOk = true then subjectEncode subj else none := by
  unfold fromW3C
  cases w3cValid wm <;> cases wm.signatureProofOk <;> rfl

theorem fromW3C_eq_some {wm : W3CMeta} {subj : Subject} {values : Values}
    (h : fromW3C wm subj = some values) : subjectEncode subj = some values := by
  rw [fromW3C_eq] at h
  exact (Option.ite_none_right_eq_some.mp h).2

theorem w3cValid_eq_false_iff (m : W3CMeta) : w3cValid m = false ↔
    m.contextOk = false ∨ m.hasW3CType = false ∨ (m.v11 = true ∧ m.hasIssuanceDate = false) := by
  unfold w3cValid
  cases m.contextOk <;> cases m.hasW3CType <;> cases m.v11 <;> cases m.hasIssuanceDate <;> decide

/-- one step of `CredentialSubject::encode`: the function the model's `subjectEncode` maps over the subject, so that
`subjectEncode subj` unfolds to `subj.mapM encOne` -/
def encOne (nv : String × SubjVal) : Option (String × (String × String)) :=
  match nv.2 with
  | .str s => some (nv.1, (s, encode s))
  | .num k => some (nv.1, (intToDec k, encode (intToDec k)))
  | .bool _ => none

theorem encOne_eq_some_iff (nv : String × SubjVal) (e : String × (String × String)) :
    encOne nv = some e ↔ (∀ b, nv.2 ≠ .bool b) ∧ e = encEntry nv := by
  obtain ⟨n, v⟩ := nv
  cases v <;> simp [encOne, encEntry, SubjVal.toStr, eq_comm]

theorem subjectEncode_eq_some_iff (subj : Subject) (values : Values) :
    subjectEncode subj = some values ↔
      (∀ nv ∈ subj, ∀ b, nv.2 ≠ .bool b) ∧ values = subj.map encEntry :=
  List.mapM_eq_some_iff_map encOne_eq_some_iff subj values

theorem subjectEncode_eq_none_iff (subj : Subject) :
    subjectEncode subj = none ↔ ∃ nv ∈ subj, ∃ b, nv.2 = .bool b := by
  have h : ∀ nv : String × SubjVal, encOne nv = none ↔ ∃ b, nv.2 = .bool b := by
    rintro ⟨n, v⟩; cases v <;> simp [encOne]
  show subj.mapM encOne = none ↔ _
  simp only [List.mapM_eq_none_iff, h]

/-- how `CredentialSubject::from` re-reads a printed value -/
def reparse (s : String) : SubjVal :=
  match parseI32 s.toList with
  | some k => .num k
  | none => .str s

theorem toSubject_eq (values : Values) :
    toSubject values = values.map (fun nv => (nv.1, reparse nv.2.1)) := rfl

theorem toStr_reparse (s : String) : (reparse s).toStr = normalizeEnc s := by
  unfold reparse normalizeEnc
  cases parseI32 s.toList <;> rfl

theorem reparse_ne_bool (s : String) (b : Bool) : reparse s ≠ .bool b := by
  unfold reparse; cases parseI32 s.toList <;> simp

end AnonModel.Convert
