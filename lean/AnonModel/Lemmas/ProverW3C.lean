import AnonModel.Lemmas.Prover
/-!
# The W3C prover model, characterised

`W3CChar`: the presentation `createPresentationW3C` returns, credential by credential (sub-proof from
`addSubProof` on the entry seen as a legacy one, subject from `buildCredentialAttributes`). The derived
subject is described through one inversion each of `attrStep` and `predStep`: every entry is justified
(`SubjectEntryJustified`), keys are the held credential's own, predicate referents leave markers.
-/
namespace AnonModel.Prover
open AnonModel.Verifier AnonModel.IdealCL

theorem createPresentationW3C_some {pc : PCtx} {r : Request} {sel : List SelectedW3C}
    {holder session uid0 : Nat} {p : VerifierW3C.Presentation}
    (h : createPresentationW3C pc r sel holder session uid0 = some p) :
    ∃ subs subjects, selectionValid (sel.map w3cAsSelected) = true ∧ usedOfW3C sel ≠ [] ∧
      (usedOfW3C sel).zipIdx.mapM (fun si => addSubProof pc r (w3cAsSelected si.1) holder session (uid0 + si.2))
        = some subs ∧
      (usedOfW3C sel).mapM (buildCredentialAttributes r) = some subjects ∧
      p = { validateOk := true,
            creds := ((usedOfW3C sel).zip (subs.zip subjects)).map (fun x => credOfW3C x.1 x.2.1 x.2.2),
            presProofOk := true,
            agg := { nonce := r.nonce, bound := subs.map (fun s => (s.uid, s.nrp.isSome)), intact := true } } := by
  revert h
  fun_cases createPresentationW3C pc r sel holder session uid0 <;> intro h <;> cases h
  -- the one case that returns: something is used (`hne`), the selection is valid (`hv`), both `mapM`s succeed
  -- (`hs : … = some subs`, `hj : … = some subjects`)
  rename_i hne hv _ subs subjects hj hs _
  exact ⟨subs, subjects, by simpa using hv, fun e => hne (congrArg List.isEmpty e), hs, hj, rfl⟩

/-- closed form of the presentation the W3C `create_presentation` returns -/
structure W3CChar (pc : PCtx) (r : Request) (sel : List SelectedW3C) (holder session uid0 : Nat)
    (p : VerifierW3C.Presentation) : Prop where
  valid : selectionValid (sel.map w3cAsSelected) = true
  nonempty : usedOfW3C sel ≠ []
  validateOk : p.validateOk = true
  presProofOk : p.presProofOk = true
  length : p.creds.length = (usedOfW3C sel).length
  cred : ∀ i c, p.creds[i]? = some c → ∃ s sub subj, (usedOfW3C sel)[i]? = some s ∧
    addSubProof pc r (w3cAsSelected s) holder session (uid0 + i) = some sub ∧
    buildCredentialAttributes r s = some subj ∧ c = credOfW3C s sub subj
  agg : p.agg = { nonce := r.nonce, bound := p.creds.map (fun c => (c.sub.uid, c.sub.nrp.isSome)),
                  intact := true }

theorem createPresentationW3C_char {pc : PCtx} {r : Request} {sel : List SelectedW3C}
    {holder session uid0 : Nat} {p : VerifierW3C.Presentation}
    (h : createPresentationW3C pc r sel holder session uid0 = some p) :
    W3CChar pc r sel holder session uid0 p := by
  obtain ⟨subs, subjects, hv, hne, hs, hj, rfl⟩ := createPresentationW3C_some h
  have hl1 := List.length_of_mapM hs
  have hl2 := List.length_of_mapM hj
  rw [List.length_zipIdx] at hl1
  refine ⟨hv, hne, rfl, rfl, ?_, ?_, ?_⟩
  · simp only [List.length_map, List.length_zip, hl1, hl2]
    omega
  · intro i c hc
    rw [List.getElem?_map] at hc
    obtain ⟨⟨s, sb, sj⟩, hz, rfl⟩ := Option.map_eq_some_iff.mp hc
    obtain ⟨hs0, hz⟩ := List.getElem?_zip_eq_some.mp hz
    obtain ⟨hsb, hsj⟩ := List.getElem?_zip_eq_some.mp hz
    obtain ⟨si, hsi, hsub⟩ := List.getElem?_inv_of_mapM hs hsb
    obtain ⟨s', hs', hsubj⟩ := List.getElem?_inv_of_mapM hj hsj
    rw [hs0] at hs'; cases hs'
    rw [List.getElem?_zipIdx, hs0] at hsi
    cases hsi
    exact ⟨s, sb, sj, hs0, by simpa using hsub, hsubj, rfl⟩
  · show ({ nonce := r.nonce, bound := subs.map _, intact := true } : SymAgg) = _
    rw [List.map_map, show (fun c : VerifierW3C.Cred => (c.sub.uid, c.sub.nrp.isSome)) ∘
        (fun x : SelectedW3C × SymSub × List (String × VerifierW3C.SubjVal) => credOfW3C x.1 x.2.1 x.2.2) =
        (fun s : SymSub => (s.uid, s.nrp.isSome)) ∘ Prod.fst ∘ Prod.snd from rfl,
      ← List.map_map, ← List.map_map, List.map_snd_zip (by simp [hl1, hl2]), List.map_fst_zip (by omega)]

section Entries
variable {pc : PCtx} {r : Request} {sel : List SelectedW3C} {holder session uid0 : Nat}
  {p : VerifierW3C.Presentation}

theorem mem_used_asSelected {s : SelectedW3C} {i : Nat} (hs : (usedOfW3C sel)[i]? = some s) :
    w3cAsSelected s ∈ (usedOfW3C sel).map w3cAsSelected :=
  List.mem_map_of_mem (List.mem_of_getElem? hs)

theorem W3CChar.cred_of (ch : W3CChar pc r sel holder session uid0 p) {s : SelectedW3C} {i : Nat}
    (hs : (usedOfW3C sel)[i]? = some s) :
    ∃ sub subj, p.creds[i]? = some (credOfW3C s sub subj) ∧
      SubChar pc r (w3cAsSelected s) holder session sub ∧
      buildCredentialAttributes r s = some subj := by
  have hi : i < p.creds.length := by rw [ch.length]; exact List.getElem?_lt hs
  obtain ⟨s', sub, subj, hs', hadd, hb, hc⟩ := ch.cred i p.creds[i] (List.getElem?_eq_getElem hi)
  rw [hs] at hs'; cases hs'
  exact ⟨sub, subj, by rw [List.getElem?_eq_getElem hi, hc], addSubProof_char hadd, hb⟩

end Entries

section Subject
open AnonModel.Names AnonModel.VerifierW3C

theorem mem_insertKV {β : Type} {m : List (String × β)} {k : String} {v : β} {kv : String × β}
    (h : kv ∈ insertKV m k v) : kv ∈ m ∨ kv = (k, v) := by
  unfold insertKV at h
  split at h
  · obtain ⟨x, hx, e⟩ := List.mem_map.mp h
    split at e
    · exact Or.inr e.symm
    · exact Or.inl (e ▸ hx)
  · rcases List.mem_append.mp h with h | h
    · exact Or.inl h
    · exact Or.inr (List.mem_singleton.mp h)

theorem addPredicate_some {subj subj' : List (String × SubjVal)} {a : String}
    (h : addPredicate subj a = some subj') :
    (∃ b, subj.lookup a = some (.bool b) ∧ subj' = subj) ∨
    (subj.lookup a = none ∧ subj' = subj ++ [(a, .bool true)]) := by
  unfold addPredicate at h
  split at h
  · exact Or.inl ⟨_, ‹_›, (Option.some.inj h).symm⟩
  · cases h
  · exact Or.inr ⟨‹_›, (Option.some.inj h).symm⟩

theorem mem_addPredicate {subj subj' : List (String × SubjVal)} {a : String}
    (h : addPredicate subj a = some subj') {kv : String × SubjVal} (hm : kv ∈ subj') :
    kv ∈ subj ∨ kv = (a, .bool true) := by
  rcases addPredicate_some h with ⟨_, _, rfl⟩ | ⟨_, rfl⟩
  · exact Or.inl hm
  · simpa using hm

theorem addPredicate_marks {subj subj' : List (String × SubjVal)} {a : String}
    (h : addPredicate subj a = some subj') : ∃ b, subj'.lookup a = some (.bool b) := by
  rcases addPredicate_some h with ⟨b, hb, rfl⟩ | ⟨hn, rfl⟩
  · exact ⟨b, hb⟩
  · exact ⟨true, by rw [List.lookup_append, hn]; simp [List.lookup]⟩

theorem addPredicate_keeps {subj subj' : List (String × SubjVal)} {a a' : String}
    (h : addPredicate subj a' = some subj') {b : Bool} (hb : subj.lookup a = some (.bool b)) :
    subj'.lookup a = some (.bool b) := by
  rcases addPredicate_some h with ⟨_, _, rfl⟩ | ⟨_, rfl⟩
  · exact hb
  · rw [List.lookup_append, hb]; rfl

/-- a referent marked `false` leaves the subject untouched (F8 of DESIGN §7 was this guard missing in
`build_credential_attributes`) -/
theorem attrStep_some {r : Request} {c : HeldW3C} {subj subj' : List (String × SubjVal)} {rr : String × Bool}
    (h : attrStep r c subj rr = some subj') :
    ∃ info, r.attrs.lookup rr.1 = some info ∧
      (∀ n ∈ info.allNames, ∃ av, lookupNorm c.subject n = some av) ∧
      (rr.2 = false → subj' = subj) ∧
      ∀ kv ∈ subj', kv ∈ subj ∨ rr.2 = true ∧ ∃ n ∈ info.allNames, lookupNorm c.subject n = some kv := by
  unfold attrStep at h
  split at h
  · cases h
  · rename_i info hinfo
    refine ⟨info, hinfo, fun n hn => ?_, fun hb => ?_, ?_⟩
    · obtain ⟨x, y, hxy⟩ := List.foldlM_some_forall h n hn
      split at hxy
      · cases hxy
      · rename_i av hav; exact ⟨av, hav⟩
    · refine List.foldlM_invariant (fun sj => sj = subj) h rfl (fun n _ x y hx hxy => ?_)
      split at hxy
      · cases hxy
      · rw [hb] at hxy; simp at hxy; rw [← hxy, hx]
    · refine List.foldlM_invariant (fun sj => ∀ kv ∈ sj, kv ∈ subj ∨ rr.2 = true ∧ ∃ n ∈ info.allNames,
        lookupNorm c.subject n = some kv) h (fun kv hkv => Or.inl hkv) (fun n hn x y hx hxy => ?_)
      split at hxy
      · cases hxy
      · rename_i av hav
        cases hxy
        split
        · rename_i hb
          intro kv hkv
          rcases mem_insertKV hkv with hkv | rfl
          · exact hx kv hkv
          · exact Or.inr ⟨hb, n, hn, hav⟩
        · exact hx

theorem predStep_some {r : Request} {c : HeldW3C} {subj subj' : List (String × SubjVal)} {ref : String}
    (h : predStep r c subj ref = some subj') :
    ∃ q av, r.preds.lookup ref = some q ∧ lookupNorm c.subject q.name = some av ∧
      addPredicate subj av.1 = some subj' := by
  revert h
  fun_cases predStep r c subj ref <;> intro h <;> try cases h
  exact ⟨_, _, ‹_›, ‹_›, h⟩

theorem buildCredentialAttributes_some {r : Request} {s : SelectedW3C} {subj : List (String × SubjVal)}
    (h : buildCredentialAttributes r s = some subj) :
    ∃ sj, s.attrs.foldlM (attrStep r s.cred) [] = some sj ∧ s.preds.foldlM (predStep r s.cred) sj = some subj := by
  unfold buildCredentialAttributes at h
  split at h
  · cases h
  · exact ⟨_, ‹_›, h⟩

/-- where an entry of a derived credential's subject comes from: copied from the held credential
for a name asked for by a referent marked revealed, or the marker `true` put under the held
credential's key of a predicate's attribute -/
def SubjectEntryJustified (r : Request) (s : SelectedW3C) (kv : String × SubjVal) : Prop :=
  (∃ n, MarkedRevealed r s.attrs n ∧ lookupNorm s.cred.subject n = some kv) ∨
  (kv.2 = .bool true ∧ ∃ ref q v, ref ∈ s.preds ∧ r.preds.lookup ref = some q ∧
    lookupNorm s.cred.subject q.name = some (kv.1, v))

theorem buildCredentialAttributes_justified {r : Request} {s : SelectedW3C}
    {subj : List (String × SubjVal)} (h : buildCredentialAttributes r s = some subj) :
    ∀ kv ∈ subj, SubjectEntryJustified r s kv := by
  obtain ⟨sj, hsj, h⟩ := buildCredentialAttributes_some h
  refine List.foldlM_invariant (fun sj => ∀ kv ∈ sj, SubjectEntryJustified r s kv) h
    (List.foldlM_invariant (fun sj => ∀ kv ∈ sj, SubjectEntryJustified r s kv) hsj
      (fun kv hkv => by cases hkv) ?_) ?_
  · intro rr hrr x y hx hxy kv hkv
    obtain ⟨info, hl, _, _, hmem⟩ := attrStep_some hxy
    rcases hmem kv hkv with hkv | ⟨hb, n, hn, hav⟩
    · exact hx kv hkv
    · obtain ⟨ref, b⟩ := rr
      cases (show b = true from hb)
      exact Or.inl ⟨n, ⟨ref, info, hrr, hl, hn⟩, hav⟩
  · intro ref hp x y hx hxy kv hkv
    obtain ⟨q, av, hq, hav, hadd⟩ := predStep_some hxy
    rcases mem_addPredicate hadd hkv with hkv | rfl
    · exact hx kv hkv
    · exact Or.inr ⟨rfl, ref, q, av.2, hp, hq, hav⟩

theorem buildCredentialAttributes_held {r : Request} {s : SelectedW3C}
    {subj : List (String × SubjVal)} (h : buildCredentialAttributes r s = some subj)
    {rr : String × Bool} (hrr : rr ∈ s.attrs) :
    ∃ info, r.attrs.lookup rr.1 = some info ∧
      ∀ n ∈ info.allNames, ∃ av, lookupNorm s.cred.subject n = some av := by
  obtain ⟨sj, hsj, _⟩ := buildCredentialAttributes_some h
  obtain ⟨x, y, hxy⟩ := List.foldlM_some_forall hsj rr hrr
  obtain ⟨info, hl, hheld, _⟩ := attrStep_some hxy
  exact ⟨info, hl, hheld⟩

theorem buildCredentialAttributes_marks {r : Request} {s : SelectedW3C}
    {subj : List (String × SubjVal)} (h : buildCredentialAttributes r s = some subj) {ref : String}
    (hp : ref ∈ s.preds) :
    ∃ q av b, r.preds.lookup ref = some q ∧ lookupNorm s.cred.subject q.name = some av ∧
      subj.lookup av.1 = some (.bool b) := by
  obtain ⟨sj, _, h⟩ := buildCredentialAttributes_some h
  exact List.foldlM_mem_post (f := predStep r s.cred)
    (fun ref sj => ∃ q av b, r.preds.lookup ref = some q ∧
      lookupNorm s.cred.subject q.name = some av ∧ sj.lookup av.1 = some (.bool b))
    (fun ref x y hxy => by
      obtain ⟨q, av, hq, hav, hadd⟩ := predStep_some hxy
      obtain ⟨b, hb⟩ := addPredicate_marks hadd
      exact ⟨q, av, b, hq, hav, hb⟩)
    (fun ref' ref x y ⟨q, av, b, hq, hav, hb⟩ hxy => by
      obtain ⟨_, _, _, _, hadd⟩ := predStep_some hxy
      exact ⟨q, av, b, hq, hav, addPredicate_keeps hadd hb⟩)
    h ref hp

theorem buildCredentialAttributes_keys {r : Request} {s : SelectedW3C}
    {subj : List (String × SubjVal)} (h : buildCredentialAttributes r s = some subj) :
    ∀ kv ∈ subj, ∃ n v, lookupNorm s.cred.subject n = some (kv.1, v) := by
  intro kv hkv
  rcases buildCredentialAttributes_justified h kv hkv with ⟨n, _, hl⟩ | ⟨_, _, q, v, _, _, hl⟩
  · exact ⟨n, kv.2, hl⟩
  · exact ⟨q.name, v, hl⟩

/-- two keys of one normal form are the same key: how `get_predicate` finds the marker `predStep` left -/
theorem lookupNorm_subj {held : List (String × SubjVal)} {n : String} {av : String × SubjVal}
    (hav : lookupNorm held n = some av)
    {subj : List (String × SubjVal)} (hc : ∀ kv ∈ subj, ∃ n' v, lookupNorm held n' = some (kv.1, v)) :
      lookupNorm subj n = (subj.lookup av.1).map (fun v => (av.1, v)) := by
  refine List.find?_fst_eq_lookup (p := fun k => commonView k == commonView n) fun kv hkv => ?_
  obtain ⟨n', v', hk⟩ := hc kv hkv
  rw [Bool.eq_iff_iff, beq_iff_eq, beq_iff_eq]
  constructor
  · intro e
    rw [Names.lookupNorm_congr held ((Names.lookupNorm_some hk).2.symm.trans e), hav] at hk
    cases hk; rfl
  · intro e; rw [← e]; exact (Names.lookupNorm_some hav).2

end Subject

end AnonModel.Prover
