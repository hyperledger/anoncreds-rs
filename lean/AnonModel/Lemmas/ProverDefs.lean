import AnonModel.Model.Prover
/-!
What `create_presentation` emits for one selection entry, piece by piece (identifier, contribution to each of the three attribute maps
of `requested_proof`, non-revocation part, derived W3C credential): the vocabulary that both the C04 specification
(`Props/C04Defs.lean`, which the driver runs) and the prover lemmas use. Definitions only.
-/
namespace AnonModel.Prover
open AnonModel.Verifier AnonModel.IdealCL

/-- the selection entries that serve at least one referent: entry `i` of this list gets sub-proof index `i` -/
def usedOf (sel : List Selected) : List Selected := sel.filter (fun s => !s.isEmpty)

/-- the W3C selection entries that serve at least one referent -/
def usedOfW3C (sel : List SelectedW3C) : List SelectedW3C := sel.filter (fun s => !s.isEmpty)

/-- the derived credential `create_presentation` emits for entry `s` with sub-proof `sub` and subject `subj` -/
def credOfW3C (s : SelectedW3C) (sub : SymSub) (subj : List (String × VerifierW3C.SubjVal)) :
    VerifierW3C.Cred :=
  { issuer := s.cred.issuer, subject := subj, proofOk := true, verificationMethod := s.cred.credDefId,
    schemaId := s.cred.schemaId, credDefId := s.cred.credDefId, revRegId := s.cred.revRegId,
    timestamp := s.timestamp, sub := sub }

/-- the identifier `create_presentation` emits for a selection entry -/
def identOf (s : Selected) : Identifier :=
  { schemaId := s.cred.schemaId, credDefId := s.cred.credDefId, revRegId := s.cred.revRegId,
    timestamp := s.timestamp }

/-- contribution of one `(referent, revealed)` to `requested_proof.revealed_attrs` -/
def revOf (r : Request) (c : HeldCred) (i : Nat) (rr : String × Bool) : List (String × RevealedInfo) :=
  (rpEntry r c i rr).elim [] (·.revealed)
/-- … to `revealed_attr_groups` -/
def grpOf (r : Request) (c : HeldCred) (i : Nat) (rr : String × Bool) : List (String × GroupInfo) :=
  (rpEntry r c i rr).elim [] (·.groups)
/-- … to `unrevealed_attrs` -/
def unrOf (r : Request) (c : HeldCred) (i : Nat) (rr : String × Bool) : List (String × Nat) :=
  (rpEntry r c i rr).elim [] (·.unrevealed)

/-- the non-revocation part `add_sub_proof` builds for a selection entry: the revocation state passed
along, iff a non-revocation interval applies (local on a revealed-attribute or predicate referent
served by the entry, else request-wide) and the credential has a registry id -/
def nrpOf (r : Request) (s : Selected) : Option SymNrp :=
  match requestedAttrs r ((s.attrs.filter (·.2)).map Prod.fst), requestedPreds r s.preds with
  | some (_, aIv), some (_, pIv) =>
    match Interval.proverInterval aIv pIv r.nonRevoked s.cred.revRegId none with
    | some _ => s.revState
    | none => none
  | _, _ => none

end AnonModel.Prover
