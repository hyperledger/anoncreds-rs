import AnonModel.Model.Tails
import AnonModel.Lemmas.Assoc
import AnonModel.Lemmas.Base58
/-! The writer machine of `Model/Tails.lean`, for C19. What has been handed to the `BufWriter` is a function of
the control point (`handedAt`), so one invariant `Inv` survives every step under every fault: names other than
the temp and the final one are untouched, the temp file holds a prefix of the file bytes, the final name holds
the complete file or what was found. -/
namespace AnonModel.Tails

theorem dirGet_dirDel (d : Dir) (x name : String) :
    dirGet (dirDel d x) name = if name = x then none else dirGet d name :=
  List.lookup_filter_key_ne d x name

theorem dirGet_dirPut (d : Dir) (x name : String) (c : List UInt8) :
    dirGet (dirPut d x c) name = if name = x then some c else dirGet d name :=
  List.lookup_cons_filter_key_ne d x name c

theorem dirGet_dirRename {d : Dir} {old new : String} {c : List UInt8} (h : dirGet d old = some c)
    (name : String) :
    dirGet (dirRename d old new) name =
      if name = new then some c else if name = old then none else dirGet d name := by
  simp only [dirRename, h, dirGet_dirPut, dirGet_dirDel]

theorem readSlice_fileBytes (size : Nat) (tails : List (List UInt8)) (k : Nat)
    (hk : k < tails.length) (hsz : ∀ t ∈ tails, t.length = size) :
    readSlice size (fileBytes tails) k = tails[k] := by
  -- the tag and the first `k` tails are `TAG_SZ + size * k` bytes; what follows begins with tail `k`
  have hl : (versionTag ++ (tails.take k).flatten).length = TAG_SZ + size * k := by
    rw [List.length_append, List.length_flatten_uniform fun t ht => hsz t (List.mem_of_mem_take ht),
      List.length_take_of_le (Nat.le_of_lt hk)]; rfl
  have hsplit : tails.flatten = (tails.take k).flatten ++ (tails[k] ++ (tails.drop (k + 1)).flatten) := by
    rw [← List.flatten_cons, ← List.drop_eq_getElem_cons hk, ← List.flatten_append, List.take_append_drop]
  rw [readSlice, fileBytes, hsplit, ← List.append_assoc, List.drop_left' hl,
    List.take_left' (hsz _ (List.getElem_mem hk))]

theorem fileBytes_length (size : Nat) (tails : List (List UInt8))
    (hsz : ∀ t ∈ tails, t.length = size) :
    (fileBytes tails).length = TAG_SZ + size * tails.length := by
  rw [fileBytes, List.length_append, List.length_flatten_uniform hsz]; rfl

/-- `.` is in every temp name and is not a base58 character -/
theorem tempName_ne_base58 (r : Nat) (bytes : List UInt8) : tempName r ≠ base58 bytes := by
  intro h
  have h1 : '.' ∈ (tempName r).toList := by simp [tempName]
  rw [h] at h1
  have := base58_chars bytes _ h1
  rw [alphabet_eq] at this
  revert this; decide

/-- the bytes handed to the `BufWriter` before control point `pc` -/
def handedAt (e : Env) : Pc → List UInt8
  | .create | .header => []
  | .tail i => versionTag ++ (e.tails.take i).flatten
  | .flush | .close | .rename => fileBytes e.tails

theorem handedAt_prefix (e : Env) (pc : Pc) : handedAt e pc <+: fileBytes e.tails := by
  cases pc with
  | tail i =>
    refine (List.prefix_append_right_inj _).mpr ?_
    conv => rhs; rw [← List.take_append_drop i e.tails, List.flatten_append]
    exact List.prefix_append _ _
  | create | header => exact List.nil_prefix
  | _ => exact List.prefix_refl _

/-- the loop head goes on to tail `i` or, past the last tail, to `flush`: either way everything up to
tail `i` has been handed over -/
theorem nextTail_spec (e : Env) (i : Nat) :
    handedAt e (nextTail e i) = versionTag ++ (e.tails.take i).flatten ∧
    (∀ j, nextTail e i = .tail j → j < e.tails.length) ∧
    nextTail e i ≠ .create ∧ nextTail e i ≠ .close ∧ nextTail e i ≠ .rename := by
  unfold nextTail
  split
  · next h => exact ⟨rfl, fun j hj => by cases hj; exact h, nofun, nofun, nofun⟩
  · next h => exact ⟨by rw [List.take_of_length_le (by omega)]; rfl, nofun, nofun, nofun, nofun⟩

/-- the directory once the temp file exists: it was free before, holds a prefix of what was handed over,
and nothing else has changed -/
structure Mid (e : Env) (dir0 : Dir) (dir : Dir) (handed : List UInt8) : Prop where
  frame : ∀ name, name ≠ e.temp → dirGet dir name = dirGet dir0 name
  fresh : dirGet dir0 e.temp = none
  cur : ∃ c, dirGet dir e.temp = some c ∧ c <+: handed

/-- a running machine: what it has handed over is what its control point says; before `create` the directory
is as found, afterwards `Mid` holds, and from `close` on the temp file is complete -/
def RunClause (e : Env) (dir0 : Dir) (st : WState) : Prop :=
  st.handed = handedAt e st.pc ∧ (∀ i, st.pc = .tail i → i < e.tails.length) ∧
  if st.pc = .create then ∀ name, dirGet st.dir name = dirGet dir0 name
  else Mid e dir0 st.dir st.handed ∧
    (st.pc = .close ∨ st.pc = .rename → dirGet st.dir e.temp = some st.handed)

/-- what holds of the directory in every reachable state, relative to the initial directory `dir0` -/
structure DirOK (e : Env) (dir0 dir : Dir) : Prop where
  /-- names other than the temp and final names are never touched -/
  frame : ∀ name, name ≠ e.temp → name ≠ fileName e.tails → dirGet dir name = dirGet dir0 name
  /-- final name: as found, or the complete file -/
  final : dirGet dir (fileName e.tails) = dirGet dir0 (fileName e.tails) ∨
          dirGet dir (fileName e.tails) = some (fileBytes e.tails)
  /-- temp name: as found, or removed, or a prefix of the file bytes -/
  temp : dirGet dir e.temp = dirGet dir0 e.temp ∨ dirGet dir e.temp = none ∨
          ∃ c, dirGet dir e.temp = some c ∧ c <+: fileBytes e.tails

/-- everything the property needs to know about a machine state; `rf` = "some `remove_file` of the guard
has failed so far" -/
structure Inv (e : Env) (dir0 : Dir) (rf : Prop) (st : WState) : Prop extends DirOK e dir0 st.dir where
  /-- an error return leaves the directory as it was found, unless `remove_file` failed (`rf`) -/
  err : st.status = .err → rf ∨ ∀ name, dirGet st.dir name = dirGet dir0 name
  ok : ∀ loc h, st.status = .ok loc h → h = fileName e.tails ∧ loc = ⟨e.root, h⟩ ∧
          dirGet st.dir h = some (fileBytes e.tails) ∧ dirGet st.dir e.temp = none ∧
          dirGet dir0 e.temp = none
  run : st.status = .running → RunClause e dir0 st

theorem Inv.mono {e : Env} {dir0 : Dir} {rf rf' : Prop} {st : WState} (h : rf → rf')
    (i : Inv e dir0 rf st) : Inv e dir0 rf' st :=
  ⟨i.toDirOK, fun hs => (i.err hs).imp h id, i.ok, i.run⟩

theorem inv_init (e : Env) (dir0 : Dir) : Inv e dir0 False (init dir0) := by
  refine ⟨⟨fun _ _ _ => rfl, Or.inl rfl, Or.inl rfl⟩, ?_, ?_, ?_⟩ <;> simp [init, RunClause, handedAt]

theorem Inv.stop {e : Env} {dir0 : Dir} {rf rf' : Prop} {st st' : WState} (i : Inv e dir0 rf st)
    (hd : st'.dir = st.dir)
    (hs : st'.status = .crashed ∨ st'.status = .err ∧ ∀ name, dirGet st.dir name = dirGet dir0 name) :
    Inv e dir0 rf' st' := by
  refine ⟨hd ▸ i.toDirOK, fun h => ?_, fun loc h heq => ?_, fun h => ?_⟩
  · rcases hs with hs | ⟨_, hdir⟩
    · rw [hs] at h; cases h
    · rw [hd]; exact .inr hdir
  · rcases hs with hs | ⟨hs, _⟩ <;> rw [hs] at heq <;> cases heq
  · rcases hs with hs | ⟨hs, _⟩ <;> rw [hs] at h <;> cases h

theorem Mid.dirOK {e : Env} {dir0 dir : Dir} {handed : List UInt8} (hne : e.temp ≠ fileName e.tails)
    (m : Mid e dir0 dir handed) (hp : handed <+: fileBytes e.tails) : DirOK e dir0 dir :=
  ⟨fun n h1 _ => m.frame n h1, .inl (m.frame _ (Ne.symm hne)),
    .inr (.inr (m.cur.imp fun _ hc => ⟨hc.1, hc.2.trans hp⟩))⟩

/-- the `?` path: the guard removes the temp file, or fails to -/
theorem inv_errPath {e : Env} {dir0 : Dir} {rf : Prop} (f : Fault) (hne : e.temp ≠ fileName e.tails)
    {dir : Dir} {handed : List UInt8} (m : Mid e dir0 dir handed) (hp : handed <+: fileBytes e.tails)
    (handed' : List UInt8) : Inv e dir0 (rf ∨ f.removeFails = true) (errPath e f dir handed') := by
  unfold errPath
  by_cases hr : f.removeFails = true
  · rw [if_pos hr]
    exact ⟨m.dirOK hne hp, fun _ => .inl (.inr hr), nofun, nofun⟩
  · rw [if_neg hr]
    have hd : ∀ n, dirGet (dirDel dir e.temp) n = dirGet dir0 n := fun n => by
      by_cases hn : n = e.temp
      · subst hn; simp [dirGet_dirDel, m.fresh]
      · simp [dirGet_dirDel, hn, m.frame n hn]
    exact ⟨⟨fun n _ _ => hd n, .inl (hd _), .inl (hd _)⟩, fun _ => .inr hd, nofun, nofun⟩

theorem partialContent_prefix (cur handed : List UInt8) (w : Nat) :
    partialContent cur handed w <+: handed := List.take_prefix _ _

theorem mid_put {e : Env} {dir0 dir : Dir} {handed handed' c : List UInt8}
    (m : Mid e dir0 dir handed) (hc : c <+: handed') : Mid e dir0 (dirPut dir e.temp c) handed' :=
  ⟨fun n h1 => by simp [dirGet_dirPut, h1, m.frame n h1], m.fresh, ⟨c, by simp [dirGet_dirPut], hc⟩⟩

theorem inv_bufStep {e : Env} {dir0 : Dir} {rf : Prop} {st : WState} (f : Fault)
    (hne : e.temp ≠ fileName e.tails) (data : List UInt8) (flushAll : Bool) (next : Pc)
    (m : Mid e dir0 st.dir st.handed) (hnext : st.handed ++ data = handedAt e next)
    (hv : ∀ i, next = .tail i → i < e.tails.length) (hc : next ≠ .create)
    (hfl : next = .close ∨ next = .rename → flushAll = true) :
    Inv e dir0 (rf ∨ f.removeFails = true) (bufStep e f data flushAll next st) := by
  unfold bufStep
  have hpre : st.handed ++ data <+: fileBytes e.tails := hnext ▸ handedAt_prefix e next
  have mP := mid_put m (partialContent_prefix ((dirGet st.dir e.temp).getD []) (st.handed ++ data) f.written)
  cases ho : f.outcome with
  | ok =>
    simp only
    have mN : Mid e dir0 (if flushAll = true then dirPut st.dir e.temp (st.handed ++ data)
        else dirPut st.dir e.temp (partialContent ((dirGet st.dir e.temp).getD []) (st.handed ++ data) f.written))
        (st.handed ++ data) := by
      split
      · exact mid_put m (List.prefix_refl _)
      · exact mP
    refine ⟨mN.dirOK hne hpre, nofun, nofun, fun _ => ⟨hnext, hv, ?_⟩⟩
    rw [if_neg hc]
    exact ⟨mN, fun h => by simp [hfl h, dirGet_dirPut]⟩
  | error => exact inv_errPath f hne mP hpre _
  | crash => exact ⟨mP.dirOK hne hpre, nofun, nofun, nofun⟩

theorem inv_step {e : Env} {dir0 : Dir} {rf : Prop} {st : WState} (f : Fault)
    (hne : e.temp ≠ fileName e.tails) (i : Inv e dir0 rf st) :
    Inv e dir0 (rf ∨ f.removeFails = true) (stepW e f st) := by
  unfold stepW
  split
  next hrun =>
    obtain ⟨hh, hv, rc⟩ := i.run hrun
    split
    next hpc =>
      -- create
      rw [hpc, if_pos rfl] at rc
      split
      next c hc =>
        split
        · exact i.stop rfl (.inl rfl)
        · exact i.stop rfl (.inr ⟨rfl, rc⟩)
      next hc =>
        have m0 : Mid e dir0 (dirPut st.dir e.temp []) [] :=
          ⟨fun n h1 => by simp [dirGet_dirPut, h1, rc], by rw [← rc]; exact hc,
            ⟨[], by simp [dirGet_dirPut], List.prefix_refl _⟩⟩
        have d0 := m0.dirOK hne List.nil_prefix
        split
        · exact ⟨d0, nofun, nofun, fun _ => ⟨rfl, nofun, m0, by simp⟩⟩
        · exact i.stop rfl (.inr ⟨rfl, rc⟩)
        · split
          · exact i.stop rfl (.inl rfl)
          · exact ⟨d0, nofun, nofun, nofun⟩
    next hpc =>
      -- header
      rw [hpc, if_neg nofun] at rc
      obtain ⟨hha, h2, h3, h4, h5⟩ := nextTail_spec e 0
      exact inv_bufStep f hne _ _ _ rc.1 (by rw [hh, hpc, hha]; rfl) h2 h3 (fun h => (h.elim h4 h5).elim)
    next j hpc =>
      -- tail j
      rw [hpc, if_neg nofun] at rc
      have hj := hv j hpc
      rw [List.getElem?_eq_getElem hj]
      obtain ⟨hha, h2, h3, h4, h5⟩ := nextTail_spec e (j + 1)
      refine inv_bufStep f hne _ _ _ rc.1 ?_ h2 h3 (fun h => (h.elim h4 h5).elim)
      rw [hh, hpc, hha, List.take_succ_eq_append_getElem hj, List.flatten_append, ← List.append_assoc,
        List.flatten_singleton]; rfl
    next hpc =>
      -- flush
      rw [hpc, if_neg nofun] at rc
      exact inv_bufStep f hne _ _ _ rc.1 (by rw [hh, hpc]; simp [handedAt]) nofun nofun (fun _ => rfl)
    next hpc =>
      -- close
      rw [hpc, if_neg nofun] at rc
      split
      · exact ⟨i.toDirOK, by simp [hrun], by simp [hrun],
          fun _ => ⟨by rw [hh, hpc]; rfl, nofun, by simpa using ⟨rc.1, rc.2 (.inl rfl)⟩⟩⟩
      · exact inv_errPath f hne rc.1 (hh ▸ handedAt_prefix e _) _
      · exact i.stop rfl (.inl rfl)
    next hpc =>
      -- rename
      rw [hpc, if_neg nofun] at rc
      have hcur := rc.2 (.inr rfl)
      rw [hpc] at hh
      have hname : base58 (sha256 st.handed) = fileName e.tails := by rw [hh]; rfl
      have dren : DirOK e dir0 (dirRename st.dir e.temp (fileName e.tails)) := by
        refine ⟨?_, Or.inr ?_, Or.inr (Or.inl ?_)⟩
        · intro n h1 h2; simp [dirGet_dirRename hcur, h1, h2, i.frame n h1 h2]
        · simp [dirGet_dirRename hcur, hh, handedAt]
        · simp [dirGet_dirRename hcur, hne]
      simp only [hname]
      split
      · refine ⟨dren, nofun, ?_, nofun⟩
        rintro loc h ⟨⟩
        refine ⟨rfl, rfl, ?_, ?_, rc.1.fresh⟩
        · simp [dirGet_dirRename hcur, hh, handedAt]
        · simp [dirGet_dirRename hcur, hne]
      · exact inv_errPath f hne rc.1 (hh ▸ handedAt_prefix e .rename) _
      · split
        · exact i.stop rfl (.inl rfl)
        · exact ⟨dren, nofun, nofun, nofun⟩
  next hnr =>
    exact i.mono Or.inl

theorem inv_run (e : Env) (dir0 : Dir) (faults : Nat → Fault) (k : Nat) :
    Inv e dir0 (∃ j, j < k ∧ (faults j).removeFails = true) (runW e faults k (init dir0)) := by
  induction k with
  | zero => exact (inv_init e dir0).mono False.elim
  | succ k ih =>
    refine (inv_step (faults k) (tempName_ne_base58 _ _) ih).mono ?_
    rintro (⟨j, hj, h⟩ | h)
    · exact ⟨j, by omega, h⟩
    · exact ⟨k, by omega, h⟩

theorem bufStep_ok {e : Env} {f : Fault} (h : f.outcome = .ok) (data : List UInt8) (b : Bool) (next : Pc)
    (st : WState) : (bufStep e f data b next st).status = .running ∧ (bufStep e f data b next st).pc = next := by
  simp [bufStep, h]

/-- number of steps a fault-free run still takes from a control point -/
def stepsLeft (e : Env) : Pc → Nat
  | .create => e.tails.length + 5
  | .header => e.tails.length + 4
  | .tail i => e.tails.length - i + 3
  | .flush => 3
  | .close => 2
  | .rename => 1

theorem stepsLeft_nextTail (e : Env) (i : Nat) :
    stepsLeft e (nextTail e i) = e.tails.length - i + 3 := by
  unfold nextTail; split
  · rfl
  · simp only [stepsLeft]; omega

theorem step_ok {e : Env} {dir0 : Dir} {f : Fault} {st : WState} (hf : f.outcome = .ok)
    (hfresh : dirGet dir0 e.temp = none) (hs : st.status = .running) (rc : RunClause e dir0 st)
    (hp : st.pc ≠ .rename) :
    (stepW e f st).status = .running ∧ stepsLeft e (stepW e f st).pc + 1 = stepsLeft e st.pc := by
  unfold stepW
  simp only [hs]
  obtain ⟨_, hv, rc⟩ := rc
  cases hpc : st.pc with
  | create =>
    rw [hpc, if_pos rfl] at rc
    have : dirGet st.dir e.temp = none := by rw [rc]; exact hfresh
    simp [this, hf, stepsLeft]
  | header =>
    simp only [bufStep_ok hf, stepsLeft_nextTail e 0]
    exact ⟨trivial, rfl⟩
  | tail i =>
    have := hv i hpc
    simp only [List.getElem?_eq_getElem this, bufStep_ok hf, stepsLeft_nextTail e (i + 1)]
    exact ⟨trivial, by simp only [stepsLeft]; omega⟩
  | flush => simp [bufStep_ok hf, stepsLeft]
  | close => simp [hf, stepsLeft]
  | rename => exact absurd hpc hp

theorem run_ok_progress (e : Env) (dir0 : Dir) (faults : Nat → Fault)
    (hok : ∀ j, (faults j).outcome = .ok) (hfresh : dirGet dir0 e.temp = none) (k : Nat)
    (hk : k ≤ e.tails.length + 4) :
    (runW e faults k (init dir0)).status = .running ∧
      stepsLeft e (runW e faults k (init dir0)).pc + k = totalSteps e := by
  induction k with
  | zero => exact ⟨rfl, rfl⟩
  | succ k ih =>
    obtain ⟨hs, hl⟩ := ih (by omega)
    have hne : (runW e faults k (init dir0)).pc ≠ .rename := fun h => by
      rw [h] at hl; simp only [stepsLeft, totalSteps] at hl; omega
    obtain ⟨h1, h2⟩ := step_ok (hok k) hfresh hs ((inv_run e dir0 faults k).run hs) hne
    exact ⟨h1, by simp only [runW]; omega⟩

/-- what it returns, `Inv.ok` says -/
theorem run_ok_final (e : Env) (dir0 : Dir) (faults : Nat → Fault)
    (hok : ∀ j, (faults j).outcome = .ok) (hfresh : dirGet dir0 e.temp = none) :
    ∃ loc h, (runW e faults (totalSteps e) (init dir0)).status = .ok loc h := by
  obtain ⟨hs, hl⟩ := run_ok_progress e dir0 faults hok hfresh (e.tails.length + 4) (Nat.le_refl _)
  have hp : (runW e faults (e.tails.length + 4) (init dir0)).pc = .rename := by
    cases h : (runW e faults (e.tails.length + 4) (init dir0)).pc <;>
      simp only [h, stepsLeft, totalSteps] at hl <;> first | rfl | omega
  show ∃ loc h, (stepW e (faults (e.tails.length + 4)) _).status = .ok loc h
  unfold stepW
  simp only [hs, hp, hok]
  exact ⟨_, _, rfl⟩

end AnonModel.Tails
