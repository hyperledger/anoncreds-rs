import AnonModel.Model.Encode
/-! Decimal strings and `parseI32`: the digit loops against the decimal value (`loopPos_spec`, `loopNeg_spec`), decimal
printing (`decVal_repr`, `natRepr_injective`), `parseI32` by its first character and on what `intToDec` prints, and what
`normalizeEnc` and `encode` do to each other's results. -/
namespace AnonModel.Encode

def AllDigits (cs : List Char) : Bool := cs.all Char.isDigit

theorem allDigits_iff {cs : List Char} : AllDigits cs = true ↔ ∀ c ∈ cs, c.isDigit = true := by
  simp [AllDigits]

/-- value of a digit string (core's `Nat.ofDigitChars`) -/
abbrev decVal (cs : List Char) (init : Nat := 0) : Nat := Nat.ofDigitChars 10 cs init

theorem digitVal_some {c : Char} {d : Nat} (h : digitVal c = some d) :
    c.isDigit = true ∧ d = c.toNat - '0'.toNat := by
  simp only [digitVal, Option.ite_none_right_eq_some, Option.some.injEq] at h
  exact ⟨h.1, h.2.symm⟩

theorem digitVal_none {c : Char} (h : digitVal c = none) : c.isDigit = false := by
  simpa [digitVal] using h

theorem digitVal_of_isDigit {c : Char} (h : c.isDigit = true) :
    digitVal c = some (c.toNat - '0'.toNat) := by
  simp [digitVal, h]

theorem le_decVal (cs : List Char) (a : Nat) : a ≤ decVal cs a := by
  rw [decVal, Nat.ofDigitChars_eq_ofDigitChars_zero]
  exact Nat.le_trans (Nat.le_mul_of_pos_left a (Nat.pow_pos (by decide))) (Nat.le_add_right _ _)

theorem loopPos_spec (acc : Nat) (cs : List Char) (hacc : (acc : Int) ≤ i32Max) :
    loopPos acc cs =
      if AllDigits cs = true ∧ (decVal cs acc : Int) ≤ i32Max then some (decVal cs acc : Int) else none := by
  induction cs generalizing acc with
  | nil => simp [loopPos, AllDigits, decVal, hacc]
  | cons c cs ih =>
    simp only [loopPos]
    cases hd : digitVal c with
    | none => simp [AllDigits, digitVal_none hd]
    | some d =>
      obtain ⟨hc, hdv⟩ := digitVal_some hd
      have hmono := le_decVal cs (10 * acc + d)
      have e : (acc : Int) * 10 + (d : Int) = ((10 * acc + d : Nat) : Int) := by push_cast; omega
      simp only [AllDigits, List.all_cons, hc, Bool.true_and, decVal, Nat.ofDigitChars_cons, ← hdv, e] at hmono ⊢
      -- an overflow of `checked_mul` is one of `checked_add` too, and the value only grows along the
      -- string: the one comparison of `10 * acc + d` with the bound decides both checks and the rest
      by_cases h : ((10 * acc + d : Nat) : Int) ≤ i32Max
      · rw [if_neg (by omega), if_neg (by omega)]; exact ih _ h
      · rw [if_neg (c := _ ∧ _) fun hh => h (by have := hh.2; omega)]
        split
        · rfl
        · exact if_pos (by omega)

/-- the mirror image of `loopPos_spec`, with `checked_sub` and the bound one larger in magnitude -/
theorem loopNeg_spec (acc : Nat) (cs : List Char) (hacc : i32Min ≤ -(acc : Int)) :
    loopNeg (-(acc : Int)) cs =
      if AllDigits cs = true ∧ i32Min ≤ -(decVal cs acc : Int) then some (-(decVal cs acc : Int)) else none := by
  induction cs generalizing acc with
  | nil => simp [loopNeg, AllDigits, decVal, hacc]
  | cons c cs ih =>
    simp only [loopNeg]
    cases hd : digitVal c with
    | none => simp [AllDigits, digitVal_none hd]
    | some d =>
      obtain ⟨hc, hdv⟩ := digitVal_some hd
      have hmono := le_decVal cs (10 * acc + d)
      have e : -(acc : Int) * 10 - (d : Int) = -((10 * acc + d : Nat) : Int) := by push_cast; omega
      simp only [AllDigits, List.all_cons, hc, Bool.true_and, decVal, Nat.ofDigitChars_cons, ← hdv, e] at hmono ⊢
      by_cases h : i32Min ≤ -((10 * acc + d : Nat) : Int)
      · rw [if_neg (by omega), if_neg (by omega)]; exact ih _ h
      · rw [if_neg (c := _ ∧ _) fun hh => h (by have := hh.2; omega)]
        split
        · rfl
        · exact if_pos (by omega)

theorem loopPos_zero (cs : List Char) :
    loopPos 0 cs = if AllDigits cs = true ∧ (decVal cs : Int) ≤ i32Max then some (decVal cs : Int) else none := by
  have := loopPos_spec 0 cs (by unfold i32Max; omega)
  simpa using this

theorem loopNeg_zero (cs : List Char) :
    loopNeg 0 cs = if AllDigits cs = true ∧ i32Min ≤ -(decVal cs : Int) then some (-(decVal cs : Int)) else none := by
  have := loopNeg_spec 0 cs (by unfold i32Min; omega)
  simpa using this

theorem repr_toList_allDigits (m : Nat) : AllDigits (Nat.repr m).toList = true := by
  rw [allDigits_iff, Nat.toList_repr]
  exact fun c hc => Nat.isDigit_of_mem_toDigits (by decide) (by decide) hc

theorem repr_toList_ne_nil (m : Nat) : (Nat.repr m).toList ≠ [] := by
  rw [Nat.toList_repr]; exact Nat.toDigits_ne_nil

theorem decVal_repr (m : Nat) : decVal (Nat.repr m).toList = m := by
  rw [Nat.toList_repr]; exact Nat.ofDigitChars_ten_toDigits

theorem natRepr_injective {a b : Nat} (h : Nat.repr a = Nat.repr b) : a = b := by
  rw [← decVal_repr a, h, decVal_repr]

theorem parseI32_plus {ds : List Char} (hne : ds ≠ []) : parseI32 ('+' :: ds) = loopPos 0 ds := by
  cases ds with
  | nil => exact absurd rfl hne
  | cons d rest => simp [parseI32]

theorem parseI32_minus {ds : List Char} (hne : ds ≠ []) : parseI32 ('-' :: ds) = loopNeg 0 ds := by
  cases ds with
  | nil => exact absurd rfl hne
  | cons d rest => simp [parseI32]

theorem parseI32_other {c : Char} {cs : List Char} (hp : c ≠ '+') (hm : c ≠ '-') :
    parseI32 (c :: cs) = loopPos 0 (c :: cs) := by
  simp [parseI32, hp, hm]

theorem loopPos_zero_eq_some {ds : List Char} {n : Int} :
    loopPos 0 ds = some n ↔ AllDigits ds = true ∧ n = (decVal ds : Int) ∧ n ≤ i32Max := by
  rw [loopPos_zero]
  split <;> rename_i hc
  · exact ⟨fun h => by cases h; exact ⟨hc.1, rfl, hc.2⟩, fun h => by rw [h.2.1]⟩
  · exact ⟨nofun, fun h => absurd ⟨h.1, h.2.1 ▸ h.2.2⟩ hc⟩

theorem loopNeg_zero_eq_some {ds : List Char} {n : Int} :
    loopNeg 0 ds = some n ↔ AllDigits ds = true ∧ n = -(decVal ds : Int) ∧ i32Min ≤ n := by
  rw [loopNeg_zero]
  split <;> rename_i hc
  · exact ⟨fun h => by cases h; exact ⟨hc.1, rfl, hc.2⟩, fun h => by rw [h.2.1]⟩
  · exact ⟨nofun, fun h => absurd ⟨h.1, h.2.1 ▸ h.2.2⟩ hc⟩

/-- what `from_str` returns fits 32 bits: by its own cases it is nothing or what one of the loops returns -/
theorem parseI32_range {cs : List Char} {n : Int} (h : parseI32 cs = some n) :
    i32Min ≤ n ∧ n ≤ i32Max := by
  revert h
  fun_cases parseI32 cs <;> intro h
  iterate 3 cases h
  · obtain ⟨_, rfl, hhi⟩ := loopPos_zero_eq_some.mp h; exact ⟨by unfold i32Min; omega, hhi⟩
  · obtain ⟨_, rfl, hlo⟩ := loopNeg_zero_eq_some.mp h; exact ⟨hlo, by unfold i32Max; omega⟩
  · obtain ⟨_, rfl, hhi⟩ := loopPos_zero_eq_some.mp h; exact ⟨by unfold i32Min; omega, hhi⟩

theorem digit_ne_sign {d : Char} (h : d.isDigit = true) : d ≠ '+' ∧ d ≠ '-' := by
  constructor <;> (rintro rfl; revert h; decide)

theorem parseI32_digits {ds : List Char} (hne : ds ≠ []) (hall : AllDigits ds = true) :
    parseI32 ds = loopPos 0 ds := by
  cases ds with
  | nil => exact absurd rfl hne
  | cons d rest =>
    obtain ⟨h1, h2⟩ := digit_ne_sign (allDigits_iff.mp hall d (by simp))
    exact parseI32_other h1 h2

theorem parseI32_intToDec_eq (n : Int) :
    parseI32 (intToDec n).toList = if i32Min ≤ n ∧ n ≤ i32Max then some n else none := by
  have hall := repr_toList_allDigits n.natAbs
  unfold intToDec
  by_cases hn : n < 0
  · have e : -((n.natAbs : Nat) : Int) = n := by omega
    have hhi : n ≤ i32Max := by unfold i32Max; omega
    rw [if_pos hn, String.toList_append, String.toList_ofList, List.singleton_append,
      parseI32_minus (repr_toList_ne_nil _), loopNeg_zero, decVal_repr, e]
    simp only [hall, hhi, true_and, and_true]
  · have e : ((n.natAbs : Nat) : Int) = n := by omega
    have hlo : i32Min ≤ n := by unfold i32Min; omega
    rw [if_neg hn, parseI32_digits (repr_toList_ne_nil _) hall, loopPos_zero, decVal_repr, e]
    simp only [hall, hlo, true_and]

theorem parseI32_intToDec {n : Int} (hlo : i32Min ≤ n) (hhi : n ≤ i32Max) :
    parseI32 (intToDec n).toList = some n :=
  (parseI32_intToDec_eq n).trans (if_pos ⟨hlo, hhi⟩)

theorem normalizeEnc_natRepr (m : Nat) : normalizeEnc (Nat.repr m) = Nat.repr m := by
  unfold normalizeEnc
  rw [parseI32_digits (repr_toList_ne_nil m) (repr_toList_allDigits m), loopPos_zero, decVal_repr]
  by_cases h : AllDigits (Nat.repr m).toList = true ∧ (m : Int) ≤ i32Max
  · rw [if_pos h]; simp [intToDec]
  · rw [if_neg h]

theorem normalizeEnc_encode (s : String) : normalizeEnc (encode s) = encode s := by
  unfold encode
  cases hp : parseI32 s.toList with
  | some n =>
    obtain ⟨hlo, hhi⟩ := parseI32_range hp
    simp [normalizeEnc, parseI32_intToDec hlo hhi]
  | none => exact normalizeEnc_natRepr _

theorem encode_normalizeEnc (s : String) : encode (normalizeEnc s) = encode s := by
  unfold normalizeEnc
  cases hp : parseI32 s.toList with
  | none => rfl
  | some n =>
    obtain ⟨hlo, hhi⟩ := parseI32_range hp
    simp only [encode, hp, parseI32_intToDec hlo hhi]

end AnonModel.Encode
