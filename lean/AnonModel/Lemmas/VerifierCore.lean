import AnonModel.Model.Verifier
import AnonModel.Lemmas.IdealCL
import AnonModel.Lemmas.Names
/-!
What the legacy and the W3C verifier have in common. Both `verify_presentation`s are one function
of three things — the conjunction of their structural checks, the contexts `add_sub_proof` built,
and the sub-proofs — namely `verdict`; and both build the context of one credential in the same
way from what the verifier supplied for its identifier (`subCtxOf`, the Rust
`CLProofVerifier::add_sub_proof`, which the model spells out once per format). Everything an
accepted presentation says about its CL proof is proved here, once, from those two.
-/
namespace AnonModel.Verifier
open AnonModel.IdealCL

/-- `Err` unless the structural checks passed and every context was built; then whatever
`ProofVerifier::verify` says -/
def verdict (pre : Bool) (cs : Option (List SubCtx)) (subs : List SymSub) (agg : SymAgg)
    (nonce : String) : Outcome :=
  bif pre then
    match cs.bind (IdealCL.verify · subs agg nonce true) with
    | none => .err
    | some b => .ok b
  else .err

variable {pre : Bool} {cs : Option (List SubCtx)} {subs : List SymSub} {agg : SymAgg}
  {nonce : String}

theorem verdict_ne_panic (site : Nat) : verdict pre cs subs agg nonce ≠ .panic site := by
  unfold verdict; cases pre
  · exact Outcome.noConfusion
  · dsimp only [cond]; split <;> exact Outcome.noConfusion

theorem verdict_trichotomy :
    verdict pre cs subs agg nonce = .ok true ∨ verdict pre cs subs agg nonce = .ok false ∨
      verdict pre cs subs agg nonce = .err := by
  cases h : verdict pre cs subs agg nonce with
  | panic s => exact absurd h (verdict_ne_panic s)
  | err => exact Or.inr (Or.inr rfl)
  | ok b => cases b <;> simp

theorem verdict_of_pre_false (h : pre = false) : verdict pre cs subs agg nonce = .err := by
  rw [verdict, h]; rfl

theorem verdict_ok_iff {b : Bool} :
    verdict pre cs subs agg nonce = .ok b ↔
      pre = true ∧ ∃ c, cs = some c ∧ IdealCL.verify c subs agg nonce true = some b := by
  unfold verdict
  cases pre
  · exact ⟨Outcome.noConfusion, fun h => Bool.noConfusion h.1⟩
  · cases cs with
    | none => exact ⟨Outcome.noConfusion, fun ⟨_, _, h, _⟩ => nomatch h⟩
    | some c =>
      simp only [cond, Option.bind_some, true_and, Option.some.injEq, exists_eq_left']
      cases IdealCL.verify c subs agg nonce true <;> simp

theorem verdict_ok_true (h : verdict pre cs subs agg nonce = .ok true) :
    agg.nonce = nonce ∧ agg.intact = true ∧ (∀ s ∈ subs, ∀ t ∈ subs, s.ms = t.ms) ∧
    agg.bound.map Prod.fst = subs.map (·.uid) := by
  obtain ⟨-, c, -, hv⟩ := verdict_ok_iff.mp h
  obtain ⟨hlen, hi, hn, hb, hms, -⟩ := verify_some_true_iff.mp hv
  exact ⟨hn, hi, hms, hb ▸ map_fst_bound hlen⟩

theorem verdict_ok_true_get (h : verdict pre cs subs agg nonce = .ok true) :
    ∃ c, cs = some c ∧ c.length = subs.length ∧
      ∀ (i : Nat) x s, c[i]? = some x → subs[i]? = some s →
        agg.bound[i]? = some (s.uid, nrpChecked x s) ∧ paramsConsistent s = true ∧
        primaryOk x s = true ∧ (nrpChecked x s = true → nrpOk x s = true) := by
  obtain ⟨-, c, hc, hv⟩ := verdict_ok_iff.mp h
  obtain ⟨hlen, -, -, hb, -, hall⟩ := verify_some_true_iff.mp hv
  refine ⟨c, hc, hlen, fun i x s hx hs => ?_⟩
  have hz : (c.zip subs)[i]? = some (x, s) := List.getElem?_zip_eq_some.mpr ⟨hx, hs⟩
  exact ⟨by rw [hb, List.getElem?_map, hz]; rfl, hall _ (List.mem_of_getElem? hz)⟩

/-- the context `CLProofVerifier::add_sub_proof` builds for a credential from what the verifier
supplied for its identifier (`none` = `Err`), before the consistency check against the sub-proof -/
def subCtxOf (ctx : Ctx) (id : Identifier) : Option SubCtx :=
  match ctx.schemas.lookup id.schemaId, ctx.credDefs.lookup id.credDefId,
      revocationRegistry ctx id with
  | some sc, some cd, some (regKey, acc) =>
    some { schemaAttrs := sc.attrNames.map Names.commonView, key := cd.key,
           hasRevKey := cd.revocable, regKey := regKey, acc := acc }
  | _, _, _ => none

theorem subCtxOf_some {ctx : Ctx} {id : Identifier} {c : SubCtx} (h : subCtxOf ctx id = some c) :
    ∃ sc cd regKey acc, ctx.schemas.lookup id.schemaId = some sc ∧
      ctx.credDefs.lookup id.credDefId = some cd ∧
      revocationRegistry ctx id = some (regKey, acc) ∧
      c = { schemaAttrs := sc.attrNames.map Names.commonView, key := cd.key,
            hasRevKey := cd.revocable, regKey := regKey, acc := acc } := by
  unfold subCtxOf at h
  split at h
  · exact ⟨_, _, _, _, ‹_›, ‹_›, ‹_›, (Option.some.inj h).symm⟩
  · cases h

theorem sound_of_primaryOk {ctx : Ctx} {id : Identifier} {c : SubCtx} {s : SymSub}
    (hc : subCtxOf ctx id = some c) (hp : primaryOk c s = true) :
    ∃ cd sc, ctx.credDefs.lookup id.credDefId = some cd ∧ ctx.schemas.lookup id.schemaId = some sc ∧
      s.intact = true ∧ s.cred.key = cd.key ∧
      (∀ a, a ∈ sc.attrNames.map Names.commonView ↔ a ∈ s.cred.attrs.map Prod.fst) ∧
      (∀ kv ∈ s.revealed, s.cred.attrs.lookup kv.1 = some kv.2) ∧
      (∀ pr ∈ s.preds, IdealCL.predHolds s.cred.attrs pr = true) := by
  obtain ⟨sc, cd, regKey, acc, hsc, hcd, -, rfl⟩ := subCtxOf_some hc
  exact ⟨cd, sc, hcd, hsc, primaryOk_iff.mp hp⟩

theorem findList_some {ls : List StatusListInfo} {rid : String} {ts : Nat} {l : StatusListInfo}
    (h : findList ls rid ts = some l) : l ∈ ls ∧ l.regId = some rid ∧ l.ts = some ts := by
  have h2 := List.find?_some h
  simp only [Bool.and_eq_true, beq_iff_eq] at h2
  exact ⟨List.mem_reverse.mp (List.mem_of_find?_eq_some h), h2⟩

theorem revocationRegistry_some {ctx : Ctx} {id : Identifier} {rid : String} {ts : Nat}
    {regKey acc : Option Nat} (hr : id.revRegId = some rid) (ht : id.timestamp = some ts)
    (h : revocationRegistry ctx id = some (regKey, acc)) :
    ∃ defs ls d l, ctx.revRegDefs = some defs ∧ ctx.lists = some ls ∧ defs.lookup rid = some d ∧
      findList ls rid ts = some l ∧ regKey = some d.regKey ∧ acc = l.acc := by
  rw [revocationRegistry, hr, ht] at h
  dsimp only at h
  split at h
  · split at h
    · cases h; exact ⟨_, _, _, _, ‹_›, ‹_›, ‹_›, ‹_›, rfl, rfl⟩
    · cases h
  · cases h

theorem revocationRegistry_none {ctx : Ctx} {id : Identifier}
    (h : id.revRegId = none ∨ id.timestamp = none) :
    revocationRegistry ctx id = some (none, none) := by
  unfold revocationRegistry
  rcases h with h | h
  · rw [h]
  · rw [h]; cases id.revRegId <;> rfl

theorem listsOk_acc {ctx : Ctx} (h : listsOk ctx = true) {ls : List StatusListInfo}
    (hls : ctx.lists = some ls) {l : StatusListInfo} (hl : l ∈ ls) : l.acc.isSome = true := by
  simp only [listsOk, hls, List.all_eq_true, Bool.and_eq_true] at h
  exact (h l hl).2

theorem nrp_verified {ctx : Ctx} {id : Identifier} {c : SubCtx} {s : SymSub} {cd : CredDefInfo}
    {rid : String} {ts : Nat} {n : SymNrp} (hlists : listsOk ctx = true)
    (hc : subCtxOf ctx id = some c) (hcd : ctx.credDefs.lookup id.credDefId = some cd)
    (hrev : cd.revocable = true) (hrid : id.revRegId = some rid) (hts : id.timestamp = some ts)
    (hn : s.nrp = some n) (hnrp : nrpChecked c s = true → nrpOk c s = true) :
    nrpChecked c s = true ∧
    ∃ defs ls d l, ctx.revRegDefs = some defs ∧ ctx.lists = some ls ∧ defs.lookup rid = some d ∧
      findList ls rid ts = some l ∧ l.acc = some n.acc ∧ n.regKey = d.regKey ∧ n.witOk = true ∧
      s.cred.rev = some (n.regKey, n.idx) := by
  obtain ⟨sc, cd', regKey, acc, -, hcd', hrr, rfl⟩ := subCtxOf_some hc
  cases hcd.symm.trans hcd'
  obtain ⟨defs, ls, d, l, hdefs, hls, hd, hl, rfl, rfl⟩ := revocationRegistry_some hrid hts hrr
  have hchk : nrpChecked ⟨sc.attrNames.map Names.commonView, cd.key, cd.revocable,
      some d.regKey, l.acc⟩ s = true := by
    simp only [nrpChecked, hn, hrev, listsOk_acc hlists hls (findList_some hl).1,
      Option.isSome_some, Bool.and_self]
  obtain ⟨hw, hk, ha, hr⟩ := nrpOk_some hn (hnrp hchk)
  exact ⟨hchk, defs, ls, d, l, hdefs, hls, hd, hl, ha, (Option.some.inj hk).symm, hw, hr⟩

theorem gatherFilter_some {ctx : Ctx} {id : Identifier} {f : Query.Filter}
    (h : gatherFilter ctx id = some f) :
    ∃ sc cd, ctx.schemas.lookup id.schemaId = some sc ∧ ctx.credDefs.lookup id.credDefId = some cd ∧
      f.schemaId = id.schemaId ∧ f.schemaIssuerId = sc.issuerId ∧ f.schemaName = sc.name ∧
      f.schemaVersion = sc.version ∧ f.issuerId = cd.issuerId ∧ f.credDefId = id.credDefId := by
  unfold gatherFilter at h
  split at h
  · cases h; exact ⟨_, _, ‹_›, ‹_›, rfl, rfl, rfl, rfl, rfl, rfl⟩
  · cases h

theorem revealedValueOk_elim {name : String} {s : SymSub} {encoded : String}
    (h : revealedValueOk name s encoded = true) :
    ∃ kv ∈ s.revealed, Names.commonView kv.1 = Names.commonView name ∧
      Encode.normalizeEnc encoded = kv.2 := by
  unfold revealedValueOk at h
  split at h
  · cases h
  · rename_i kv hl
    exact ⟨kv, (Names.lookupNorm_some hl).1, (Names.lookupNorm_some hl).2, beq_iff_eq.mp h⟩

end AnonModel.Verifier
