import AnonModel.Model.WireReq
import AnonModel.Lemmas.Query
import AnonModel.Lemmas.Wire
/-!
The request codec of `Model/WireReq.lean`, for C15. `WfReq` collects the invariants of the Rust request
type (`Nonce` a non-empty digit string, `u64` / `i32` ranges, unique `HashMap` keys, every restriction in
the image class `Good` of the restriction parser): on it `reqDe ∘ reqSer` is the identity, and whatever
`reqDe` returns from a `Json.WF` document satisfies it. Both directions go member by member: a leaf is an
iff, and each way a member is read (`reqMember`, `optMember`, `mapMember`) hands on what its content satisfies.
What a decoder returns is analysed by the decoder's own case principle (`fun_cases`): the cases that return a
value are the object and (not for `reqDe`) the array of the right length with every member read, and they come
with one equation per member. The statements of C15 that speak of one member of an object go through
`attrDe_obj_eq_some_iff` and `reqDe_obj_eq_some_iff`.
-/
namespace AnonModel.WireReq
open AnonModel.Json
open AnonModel.Query (Query parseRestriction print Good GoodL reserved)
open AnonModel.Interval (Ivl)

/-! ## `Good` is decidable; what a well-formed request is (`WfReq`) -/

mutual
def goodB : Query → Bool
  | .and l => goodLB l
  | .or l => !l.isEmpty && goodLB l
  | .not q => goodB q
  | .eq k _ => !reserved.contains k
  | .neq k _ => !reserved.contains k
  | .gt k _ => !reserved.contains k
  | .gte k _ => !reserved.contains k
  | .lt k _ => !reserved.contains k
  | .lte k _ => !reserved.contains k
  | .like k _ => !reserved.contains k
  | .isIn k _ => !reserved.contains k
  | .exist ks => !ks.isEmpty
def goodLB : List Query → Bool
  | [] => true
  | q :: r => goodB q && goodLB r
end

mutual
theorem goodB_iff : ∀ q : Query, goodB q = true ↔ Good q
  | .and l => by simp only [goodB, Good]; exact goodLB_iff l
  | .or l => by
    simp only [goodB, Good, Bool.and_eq_true, goodLB_iff l]
    cases l <;> simp
  | .not q => by simp only [goodB, Good]; exact goodB_iff q
  | .eq .. | .neq .. | .gt .. | .gte .. | .lt .. | .lte .. | .like .. | .isIn .. => by
    simp [goodB, Good]
  | .exist ks => by cases ks <;> simp [goodB, Good]
theorem goodLB_iff : ∀ l : List Query, goodLB l = true ↔ GoodL l
  | [] => by simp [goodLB, GoodL]
  | q :: r => by simp only [goodLB, GoodL, Bool.and_eq_true, goodB_iff q, goodLB_iff r]
end

instance (q : Query) : Decidable (Good q) := decidable_of_iff _ (goodB_iff q)

def OptAll {α : Type} (P : α → Prop) : Option α → Prop
  | none => True
  | some a => P a

instance {α : Type} {P : α → Prop} [DecidablePred P] : (o : Option α) → Decidable (OptAll P o)
  | none => isTrue trivial
  | some a => inferInstanceAs (Decidable (P a))

/-- both bounds, if present, are `u64`s -/
def IvlOk (i : Ivl) : Prop := OptAll (fun n => n < 2 ^ 64) i.lo ∧ OptAll (fun n => n < 2 ^ 64) i.hi

instance (i : Ivl) : Decidable (IvlOk i) := inferInstanceAs (Decidable (_ ∧ _))

/-- restrictions in the parser's image class, local interval bounds are `u64`s -/
def AttrOk (a : AttrInfo) : Prop := OptAll Good a.restrictions ∧ OptAll IvlOk a.nonRevoked

instance (a : AttrInfo) : Decidable (AttrOk a) := inferInstanceAs (Decidable (_ ∧ _))

/-- `p_value` is an `i32`; restrictions and local interval as for attributes -/
def PredOk (p : PredInfo) : Prop :=
  (-(2 ^ 31 : Int) ≤ p.pValue ∧ p.pValue < 2 ^ 31) ∧ OptAll Good p.restrictions ∧
    OptAll IvlOk p.nonRevoked

instance (p : PredInfo) : Decidable (PredOk p) := inferInstanceAs (Decidable (_ ∧ _))

/-- what `Nonce::from_dec` accepts: a non-empty run of ASCII digits -/
def NonceOk (s : String) : Prop := s ≠ "" ∧ ∀ c ∈ s.toList, c.isDigit = true

instance (s : String) : Decidable (NonceOk s) := inferInstanceAs (Decidable (_ ∧ _))

/-- **well-formed request**: the nonce is a non-empty digit string; referents are pairwise
distinct among the attributes and among the predicates (`HashMap` keys); every restriction is
`Good`; every interval bound is below `2^64`; every `p_value` is in the `i32` range. -/
def WfReq (r : ReqDoc) : Prop :=
  NonceOk r.nonce ∧ (r.attrs.map (·.1)).Nodup ∧ (r.preds.map (·.1)).Nodup ∧
    (∀ kv ∈ r.attrs, AttrOk kv.2) ∧ (∀ kv ∈ r.preds, PredOk kv.2) ∧ OptAll IvlOk r.nonRevoked

instance (r : ReqDoc) : Decidable (WfReq r) := inferInstanceAs (Decidable (_ ∧ _))

/-! ## leaves: exactly the documents a leaf is read from -/

theorem u64De_eq_some_iff {j : Json} {n : Nat} : u64De j = some n ↔ j = natSer n ∧ n < 2 ^ 64 := by
  cases j with
  | num k =>
    simp only [u64De, natSer, Json.num.injEq]
    split <;> simp only [Option.some.injEq, reduceCtorEq, false_iff] <;> omega
  | _ => simp [u64De, natSer]

theorem i32De_eq_some_iff {j : Json} {v : Int} :
    i32De j = some v ↔ j = .num v ∧ -(2 ^ 31 : Int) ≤ v ∧ v < 2 ^ 31 := by
  cases j with
  | num k =>
    simp only [i32De, Json.num.injEq]
    split <;> simp only [Option.some.injEq, reduceCtorEq, false_iff] <;> omega
  | _ => simp [i32De]

theorem pTypeDe_str (t : PType) : pTypeDe (.str (pTypeStr t)) = some t := by
  cases t <;> rfl

theorem nonceOf_str {s : String} (h : NonceOk s) : nonceOf (.str s) = some s :=
  (Wire.nonceFromDec_eq_some_iff s s).mpr ⟨rfl, h.1, h.2⟩

theorem verDe_verStr (b : Bool) :
    Wire.verDe (some (toW (.str (verStr b)))) = some (if b then .v2 else .v1) := by
  cases b <;> decide

/-! ## `Option<T>`, a member of an object, a `HashMap`: what the content satisfies is inherited,
and `de ∘ ser` is the identity as soon as it is on the content -/

theorem optVal_null {α : Type} (de : Json → Option α) : optVal de .null = some none := rfl

theorem optVal_of_ne_null {α : Type} {de : Json → Option α} {j : Json} (hj : j ≠ .null) :
    optVal de j = (de j).map some := by
  unfold optVal
  split
  · exact absurd rfl hj
  · cases de j <;> rfl

theorem optVal_of_some {α : Type} {de : Json → Option α} {j : Json} {a : α} (hj : j ≠ .null)
    (h : de j = some a) : optVal de j = some (some a) := by
  rw [optVal_of_ne_null hj, h]; rfl

theorem optVal_of_none {α : Type} {de : Json → Option α} {j : Json} (hj : j ≠ .null)
    (h : de j = none) : optVal de j = none := by
  rw [optVal_of_ne_null hj, h]; rfl

theorem optVal_optSer {α : Type} {de : Json → Option α} {ser : α → Json} {P : α → Prop}
    (hde : ∀ {a}, P a → de (ser a) = some a) (hnn : ∀ a, ser a ≠ .null) {o : Option α}
    (h : OptAll P o) : optVal de (optSer ser o) = some o := by
  cases o with
  | none => rfl
  | some a => exact optVal_of_some (hnn a) (hde h)

theorem optMember_all {α : Type} {de : Json → Option α} {P : α → Prop}
    (hde : ∀ {j a}, de j = some a → P a) {oj : Option Json} {o : Option α}
    (h : optMember de oj = some o) : OptAll P o := by
  cases oj with
  | none => cases h; trivial
  | some j =>
    by_cases hj : j = .null
    · subst hj; cases h; trivial
    · rw [optMember, optVal_of_ne_null hj] at h
      obtain ⟨a, ha, rfl⟩ := Option.map_eq_some_iff.mp h
      exact hde ha

theorem reqMember_all {α : Type} {de : Json → Option α} {P : α → Prop}
    (hde : ∀ {j a}, de j = some a → P a) {oj : Option Json} {a : α}
    (h : reqMember de oj = some a) : P a := by
  cases oj with
  | none => cases h
  | some j => exact hde h

theorem mapDe_mapSer {α : Type} {de : Json → Option α} {ser : α → Json} (l : List (String × α))
    (h : ∀ kv ∈ l, de (ser kv.2) = some kv.2) : mapDe de (mapSer ser l) = some l := by
  induction l with
  | nil => rfl
  | cons kv r ih =>
    obtain ⟨h1, h2⟩ := List.forall_mem_cons.mp h
    simp [mapSer, mapDe, h1, ih h2]

theorem mapDe_eq_some {α : Type} {de : Json → Option α} {m : List (String × Json)}
    {l : List (String × α)} (h : mapDe de m = some l) :
    l.map (·.1) = m.map (·.1) ∧ ∀ kv ∈ l, ∃ j, de j = some kv.2 := by
  fun_induction mapDe de m generalizing l with
  | case1 => cases h; simp
  | case2 => cases h
  | case3 => cases h
  | case4 k v r a ha l' hl' ih =>
    cases h
    exact ⟨by simp [(ih hl').1], List.forall_mem_cons.mpr ⟨⟨v, ha⟩, (ih hl').2⟩⟩

theorem mapMember_all {α : Type} {de : Json → Option α} {P : α → Prop}
    (hde : ∀ {j a}, de j = some a → P a) {oj : Option Json} {l : List (String × α)}
    (h : mapMember de oj = some l) : ∀ kv ∈ l, P kv.2 := by
  unfold mapMember at h
  split at h
  · cases h; simp
  · intro kv hkv
    obtain ⟨_, hj⟩ := (mapDe_eq_some h).2 kv hkv
    exact hde hj
  · cases h

theorem optU64_roundtrip {o : Option Nat} (h : OptAll (fun n => n < 2 ^ 64) o) :
    optVal u64De (optSer natSer o) = some o :=
  optVal_optSer (fun h => u64De_eq_some_iff.mpr ⟨rfl, h⟩) (fun _ => by simp [natSer]) h

theorem ivlDe_ivlSer {i : Ivl} (h : IvlOk i) : ivlDe (ivlSer i) = some i := by
  obtain ⟨lo, hi⟩ := i
  simp [ivlSer, ivlDe, List.lookup, optMember, optU64_roundtrip h.1, optU64_roundtrip h.2]

theorem optIvl_roundtrip {o : Option Ivl} (h : OptAll IvlOk o) :
    optVal ivlDe (optSer ivlSer o) = some o :=
  optVal_optSer ivlDe_ivlSer (fun _ => by simp [ivlSer]) h

theorem optQuery_roundtrip {o : Option Query} (h : OptAll Good o) :
    optVal parseRestriction (optSer print o) = some o :=
  optVal_optSer (AnonModel.Query.parse_print_of_good _)
    (fun q => by obtain ⟨m, hm⟩ := AnonModel.Query.print_isObj q; simp [hm]) h

theorem attrDe_attrSer {a : AttrInfo} (h : AttrOk a) : attrDe (attrSer a) = some a := by
  obtain ⟨n, ns, r, i⟩ := a
  have hr' := optQuery_roundtrip h.1
  have hi' := optIvl_roundtrip h.2
  simp only at hr' hi'
  have hs : ∀ s : String, optVal strDe (.str s) = some (some s) :=
    fun s => optVal_of_some (by simp) rfl
  have hl : ∀ l : List String, optVal strVecDe (.arr (l.map Json.str)) = some (some l) :=
    fun l => optVal_of_some (by simp) (AnonModel.Query.strList?_map_str l)
  cases n <;> cases ns <;> simp [attrSer, attrDe, List.lookup, optMember, hs, hl, hr', hi']

theorem predDe_predSer {p : PredInfo} (h : PredOk p) : predDe (predSer p) = some p := by
  obtain ⟨n, t, v, r, i⟩ := p
  have hr' := optQuery_roundtrip h.2.1
  have hi' := optIvl_roundtrip h.2.2
  have hv' := i32De_eq_some_iff.mpr ⟨rfl, h.1⟩
  simp only at hr' hi' hv'
  simp [predSer, predDe, List.lookup, optMember, reqMember, strDe, pTypeDe_str, hv', hr', hi']

/-- key uniqueness is not needed by the model: maps are read entry by entry -/
theorem reqDe_reqSer {r : ReqDoc} (hn : NonceOk r.nonce) (ha : ∀ kv ∈ r.attrs, AttrOk kv.2)
    (hp : ∀ kv ∈ r.preds, PredOk kv.2) (hi : OptAll IvlOk r.nonRevoked) :
    reqDe (reqSer r) = some r := by
  obtain ⟨nonce, name, version, attrs, preds, nr, v2⟩ := r
  have h1 := nonceOf_str hn
  have h2 := mapDe_mapSer (de := attrDe) (ser := attrSer) attrs (fun kv hkv => attrDe_attrSer (ha kv hkv))
  have h3 := mapDe_mapSer (de := predDe) (ser := predSer) preds (fun kv hkv => predDe_predSer (hp kv hkv))
  have h4 := optIvl_roundtrip hi
  simp only at h1 h2 h3 h4 hn
  cases v2 <;>
    simp [reqSer, reqDe, List.lookup, optMember, reqMember, mapMember, strDe, h1, h2, h3, h4] <;>
    simp [verStr, toW, Wire.verDe, verFlag]

theorem attrDe_obj_eq_some_iff {m : List (String × Json)} {a : AttrInfo} :
    attrDe (.obj m) = some a ↔
      optMember strDe (m.lookup "name") = some a.name ∧
      optMember strVecDe (m.lookup "names") = some a.names ∧
      optMember parseRestriction (m.lookup "restrictions") = some a.restrictions ∧
      optMember ivlDe (m.lookup "non_revoked") = some a.nonRevoked := by
  obtain ⟨n, ns, r, i⟩ := a
  simp only [attrDe]
  split; · simp [*]
  split; · simp [*]
  split; · simp [*]
  split <;> simp [*]

theorem reqDe_obj_eq_some_iff {m : List (String × Json)} {r : ReqDoc} :
    reqDe (.obj m) = some r ↔
      (Wire.verDe ((m.lookup "ver").map toW)).map verFlag = some r.v2 ∧
      reqMember nonceOf (m.lookup "nonce") = some r.nonce ∧
      reqMember strDe (m.lookup "name") = some r.name ∧
      reqMember strDe (m.lookup "version") = some r.version ∧
      mapMember attrDe (m.lookup "requested_attributes") = some r.attrs ∧
      mapMember predDe (m.lookup "requested_predicates") = some r.preds ∧
      optMember ivlDe (m.lookup "non_revoked") = some r.nonRevoked := by
  obtain ⟨nonce, name, version, attrs, preds, nr, v2⟩ := r
  simp only [reqDe]
  split; · simp [*]
  split; · simp [*]
  split; · simp [*]
  split; · simp [*]
  split; · simp [*]
  split; · simp [*]
  split
  · simp [*]
  · simp only [*, Option.map_some, Option.some.injEq, ReqDoc.mk.injEq]
    exact ⟨fun ⟨a, b, c, d, e, f, g⟩ => ⟨g, a, b, c, d, e, f⟩, fun ⟨g, a, b, c, d, e, f⟩ => ⟨a, b, c, d, e, f, g⟩⟩

/-- the member names `PresentationRequest::deserialize` looks at -/
def reqKeys : List String :=
  ["ver", "nonce", "name", "version", "requested_attributes", "requested_predicates", "non_revoked"]

/-! ## everything a decoder returns is well formed

The cases of a decoder that return a value are the object with every member read and, for the three
inner structs, the array of the right length; the array case reads its members with
`optVal de j = optMember de (some j)` and `de j = reqMember de (some j)`. -/

theorem ivlDe_ok {j : Json} {i : Ivl} (h : ivlDe j = some i) : IvlOk i := by
  have u64 {oj o} : optMember u64De oj = some o → OptAll (· < 2 ^ 64) o :=
    optMember_all fun h => (u64De_eq_some_iff.mp h).2
  revert h
  fun_cases ivlDe j <;> rintro ⟨⟩
  · exact ⟨u64 ‹_›, u64 ‹_›⟩
  · exact ⟨u64 (oj := some _) ‹_›, u64 (oj := some _) ‹_›⟩

theorem attrDe_ok {j : Json} {a : AttrInfo} (h : attrDe j = some a) : AttrOk a := by
  revert h
  fun_cases attrDe j <;> rintro ⟨⟩
  · exact ⟨optMember_all AnonModel.Query.parseRestriction_good ‹_›, optMember_all ivlDe_ok ‹_›⟩
  · exact ⟨optMember_all (oj := some _) AnonModel.Query.parseRestriction_good ‹_›,
      optMember_all (oj := some _) ivlDe_ok ‹_›⟩

theorem predDe_ok {j : Json} {p : PredInfo} (h : predDe j = some p) : PredOk p := by
  have i32 {oj v} : reqMember i32De oj = some v → -(2 ^ 31 : Int) ≤ v ∧ v < 2 ^ 31 :=
    reqMember_all fun h => (i32De_eq_some_iff.mp h).2
  revert h
  fun_cases predDe j <;> rintro ⟨⟩
  · exact ⟨i32 ‹_›, optMember_all AnonModel.Query.parseRestriction_good ‹_›, optMember_all ivlDe_ok ‹_›⟩
  · exact ⟨i32 (oj := some _) ‹_›, optMember_all (oj := some _) AnonModel.Query.parseRestriction_good ‹_›,
      optMember_all (oj := some _) ivlDe_ok ‹_›⟩

theorem reqDe_wf_weak {j : Json} {r : ReqDoc} (h : reqDe j = some r) :
    NonceOk r.nonce ∧ (∀ kv ∈ r.attrs, AttrOk kv.2) ∧ (∀ kv ∈ r.preds, PredOk kv.2) ∧
      OptAll IvlOk r.nonRevoked := by
  revert h
  fun_cases reqDe j <;> rintro ⟨⟩
  exact ⟨reqMember_all Wire.nonceDe_digits ‹_›, mapMember_all attrDe_ok ‹_›, mapMember_all predDe_ok ‹_›,
    optMember_all ivlDe_ok ‹_›⟩

/-! ## keys: a document with sorted keys gives sorted, hence distinct, referents -/

theorem keysSorted_iff_pairwise : ∀ ks : List String, keysSorted ks = true ↔ ks.Pairwise (· < ·)
  | [] => by simp [keysSorted]
  | [a] => by simp [keysSorted]
  | a :: b :: r => by
    rw [keysSorted, Bool.and_eq_true, decide_eq_true_eq, keysSorted_iff_pairwise (b :: r),
      List.pairwise_cons (a := a)]
    refine ⟨fun ⟨hab, hp⟩ => ⟨fun x hx => ?_, hp⟩, fun ⟨h, hp⟩ => ⟨h b (by simp), hp⟩⟩
    rcases List.mem_cons.mp hx with rfl | hx
    · exact hab
    · exact String.lt_trans hab (List.rel_of_pairwise_cons hp hx)

theorem keysSorted_nodup (ks : List String) (h : keysSorted ks = true) : ks.Nodup :=
  List.Pairwise.imp (S := (· ≠ ·)) (fun hab e => String.lt_irrefl _ (e ▸ hab))
    ((keysSorted_iff_pairwise ks).mp h)

theorem wf_lookup {m : List (String × Json)} {k : String} {v : Json} (hw : wfEntries m = true)
    (h : m.lookup k = some v) : v.WF = true :=
  List.all_eq_true.mp (AnonModel.Query.wfEntries_eq m ▸ hw) (k, v) (List.mem_of_lookup h)

theorem mapMember_keys_sorted {α : Type} {de : Json → Option α} {m : List (String × Json)}
    {k : String} (hw : wfEntries m = true) {l : List (String × α)}
    (h : mapMember de (m.lookup k) = some l) : keysSorted (l.map (·.1)) = true := by
  cases hk : m.lookup k with
  | none => rw [hk] at h; cases h; rfl
  | some v =>
    rw [hk] at h
    have hv := wf_lookup hw hk
    cases v with
    | obj m' =>
      rw [(mapDe_eq_some h).1]
      simp only [Json.WF, Bool.and_eq_true] at hv
      exact hv.1
    | _ => simp [mapMember] at h

theorem reqDe_keys_sorted {j : Json} {r : ReqDoc} (hj : j.WF = true) (h : reqDe j = some r) :
    keysSorted (r.attrs.map (·.1)) = true ∧ keysSorted (r.preds.map (·.1)) = true := by
  revert h
  fun_cases reqDe j <;> rintro ⟨⟩
  simp only [Json.WF, Bool.and_eq_true] at hj
  exact ⟨mapMember_keys_sorted hj.2 ‹_›, mapMember_keys_sorted hj.2 ‹_›⟩

theorem reqDe_wf {j : Json} {r : ReqDoc} (hj : j.WF = true) (h : reqDe j = some r) : WfReq r :=
  have ⟨h1, h2, h3, h4⟩ := reqDe_wf_weak h
  have ⟨ha, hp⟩ := reqDe_keys_sorted hj h
  ⟨h1, keysSorted_nodup _ ha, keysSorted_nodup _ hp, h2, h3, h4⟩

/-! ## what `reqSer` writes has sorted, unique keys -/

theorem optSer_wf {α : Type} {ser : α → Json} (h : ∀ a, (ser a).WF = true) (o : Option α) :
    (optSer ser o).WF = true := by
  cases o with
  | none => rfl
  | some a => exact h a

theorem ivlSer_wf (i : Ivl) : (ivlSer i).WF = true := by
  have hk : keysSorted ["from", "to"] = true := by decide +kernel
  simp [ivlSer, Json.WF, wfEntries, hk, optSer_wf (ser := natSer) fun _ => rfl]

theorem attrSer_wf (a : AttrInfo) : (attrSer a).WF = true := by
  obtain ⟨n, ns, r, i⟩ := a
  have h1 : keysSorted ["name", "names", "non_revoked", "restrictions"] = true := by decide +kernel
  have h2 : keysSorted ["name", "non_revoked", "restrictions"] = true := by decide +kernel
  have h3 : keysSorted ["names", "non_revoked", "restrictions"] = true := by decide +kernel
  have h4 : keysSorted ["non_revoked", "restrictions"] = true := by decide +kernel
  have hi := optSer_wf ivlSer_wf i
  have hr := optSer_wf AnonModel.Query.print_wf r
  cases n <;> cases ns <;>
    simp [attrSer, Json.WF, wfEntries, h1, h2, h3, h4, hi, hr, AnonModel.Query.wfList_strs]

theorem predSer_wf (p : PredInfo) : (predSer p).WF = true := by
  obtain ⟨n, t, v, r, i⟩ := p
  have h1 : keysSorted ["name", "non_revoked", "p_type", "p_value", "restrictions"] = true := by
    decide +kernel
  have hi := optSer_wf ivlSer_wf i
  have hr := optSer_wf AnonModel.Query.print_wf r
  simp [predSer, Json.WF, wfEntries, h1, hi, hr]

theorem mapSer_keys {α : Type} (ser : α → Json) :
    ∀ l : List (String × α), (mapSer ser l).map (·.1) = l.map (·.1)
  | [] => rfl
  | (k, a) :: r => by simp [mapSer, mapSer_keys ser r]

theorem mapSer_wfEntries {α : Type} {ser : α → Json} (h : ∀ a, (ser a).WF = true) :
    ∀ l : List (String × α), wfEntries (mapSer ser l) = true
  | [] => rfl
  | (k, a) :: r => by simp [mapSer, wfEntries, h a, mapSer_wfEntries h r]

/-- strictly increasing referent lists are how a `BTreeMap` — what `to_value` builds — iterates -/
theorem reqSer_wf (r : ReqDoc) (ha : keysSorted (r.attrs.map (·.1)) = true)
    (hp : keysSorted (r.preds.map (·.1)) = true) : (reqSer r).WF = true := by
  have hk : keysSorted ["name", "non_revoked", "nonce", "requested_attributes",
      "requested_predicates", "ver", "version"] = true := by decide +kernel
  have hi := optSer_wf ivlSer_wf r.nonRevoked
  have h1 : (Json.obj (mapSer attrSer r.attrs)).WF = true := by
    simp [Json.WF, mapSer_keys, ha, mapSer_wfEntries attrSer_wf]
  have h2 : (Json.obj (mapSer predSer r.preds)).WF = true := by
    simp [Json.WF, mapSer_keys, hp, mapSer_wfEntries predSer_wf]
  simp only [reqSer, Json.WF, wfEntries, List.map, hk, hi, Bool.and_self, Bool.true_and]
  simp only [Json.WF] at h1 h2
  simp [h1, h2]

end AnonModel.WireReq
