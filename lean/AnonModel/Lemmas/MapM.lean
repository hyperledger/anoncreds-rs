import AnonModel.Lemmas.Assoc
/-! `List.mapM` in `Option`: success characterised once (`mapM_eq_some_iff`), what follows from it member by member and
position by position, and failure (`mapM_eq_none_iff`). -/
namespace List
variable {α β γ : Type} {f : α → Option β} {xs : List α} {ys : List β}

theorem mapM_eq_some_iff : xs.mapM f = some ys ↔ xs.map f = ys.map some := by
  induction xs generalizing ys with
  | nil => cases ys <;> simp
  | cons x xs ih =>
    rw [List.mapM_cons]
    cases ys with
    | nil => cases f x <;> cases xs.mapM f <;> simp
    | cons y ys =>
      simp only [List.map_cons, List.cons.injEq]
      rw [← ih]
      cases f x <;> cases xs.mapM f <;> simp

theorem mapM_eq_none_iff : xs.mapM f = none ↔ ∃ x ∈ xs, f x = none := by
  induction xs with
  | nil => simp
  | cons x xs ih =>
    rw [List.mapM_cons]
    cases hx : f x with
    | none => simp [hx]
    | some y =>
      cases hxs : xs.mapM f with
      | none =>
        obtain ⟨z, hz, hfz⟩ := ih.mp hxs
        simp only [Option.bind_eq_bind, Option.bind_some, Option.bind_none, List.mem_cons, true_iff]
        exact ⟨z, Or.inr hz, hfz⟩
      | some zs =>
        have : ¬ ∃ x ∈ xs, f x = none := fun h => by simp [ih.mpr h] at hxs
        simp only [Option.bind_eq_bind, Option.bind_some, pure, List.mem_cons, reduceCtorEq, false_iff]
        rintro ⟨z, rfl | hz, hfz⟩
        · simp [hx] at hfz
        · exact this ⟨z, hz, hfz⟩

theorem mapM_isSome_iff : (xs.mapM f).isSome ↔ ∀ x ∈ xs, (f x).isSome := by
  simp only [← Option.ne_none_iff_isSome, ne_eq, mapM_eq_none_iff, not_exists, not_and]

theorem length_of_mapM (h : xs.mapM f = some ys) : ys.length = xs.length := by
  simpa using (congrArg length (mapM_eq_some_iff.mp h)).symm

theorem getElem?_map_of_mapM (h : xs.mapM f = some ys) (i : Nat) : xs[i]?.map f = ys[i]?.map some := by
  simpa using congrArg (·[i]?) (mapM_eq_some_iff.mp h)

theorem getElem?_of_mapM (h : xs.mapM f = some ys) {i : Nat} {x : α} (hx : xs[i]? = some x) :
    ∃ y, ys[i]? = some y ∧ f x = some y := by
  have := getElem?_map_of_mapM h i
  rw [hx] at this
  obtain ⟨y, hy, e⟩ := Option.map_eq_some_iff.mp this.symm
  exact ⟨y, hy, e.symm⟩

theorem getElem?_inv_of_mapM (h : xs.mapM f = some ys) {i : Nat} {y : β} (hy : ys[i]? = some y) :
    ∃ x, xs[i]? = some x ∧ f x = some y := by
  have := getElem?_map_of_mapM h i
  rw [hy] at this
  exact Option.map_eq_some_iff.mp this

theorem mem_iff_of_mapM (h : xs.mapM f = some ys) (y : β) : y ∈ ys ↔ ∃ x ∈ xs, f x = some y := by
  have := congrArg (some y ∈ ·) (mapM_eq_some_iff.mp h)
  simpa [eq_comm] using this.symm

theorem exists_mem_of_mapM (h : xs.mapM f = some ys) {x : α} (hx : x ∈ xs) : ∃ y ∈ ys, f x = some y := by
  have : f x ∈ ys.map some := mapM_eq_some_iff.mp h ▸ mem_map_of_mem hx
  obtain ⟨y, hy, e⟩ := mem_map.mp this
  exact ⟨y, hy, e.symm⟩

theorem mapM_eq_some_map {g : α → β} (h : ∀ x ∈ xs, f x = some (g x)) : xs.mapM f = some (xs.map g) := by
  rw [mapM_eq_some_iff, map_map]
  exact map_congr_left h

theorem mapM_map_of_inverse {g : β → α} (ys : List β) (h : ∀ y ∈ ys, f (g y) = some y) :
    (ys.map g).mapM f = some ys := by
  rw [mapM_eq_some_iff, List.map_map]
  exact List.map_congr_left h

theorem map_of_mapM_inverse {g : β → α} (hg : ∀ x y, f x = some y → g y = x) (h : xs.mapM f = some ys) :
    ys.map g = xs := by
  rw [mapM_eq_some_iff] at h
  induction xs generalizing ys with
  | nil => cases ys <;> simp_all
  | cons x xs ih =>
    cases ys with
    | nil => simp at h
    | cons y ys =>
      simp only [List.map_cons, List.cons.injEq] at h ⊢
      exact ⟨hg x y h.1, ih h.2⟩

theorem mapM_eq_some_iff_map {g : α → β} {P : α → Prop} (h : ∀ x y, f x = some y ↔ P x ∧ y = g x)
    (xs : List α) (ys : List β) : xs.mapM f = some ys ↔ (∀ x ∈ xs, P x) ∧ ys = xs.map g := by
  rw [mapM_eq_some_iff]
  induction xs generalizing ys with
  | nil => cases ys <;> simp
  | cons x xs ih =>
    cases ys with
    | nil => simp
    | cons y ys => simp [ih, h, and_assoc, and_left_comm]

theorem mapM_exists_getElem? {P : Nat → β → Prop}
    (h : ∀ (i : Nat) x, xs[i]? = some x → ∃ y, f x = some y ∧ P i y) :
    ∃ ys, xs.mapM f = some ys ∧ ys.length = xs.length ∧ ∀ (i : Nat) y, ys[i]? = some y → P i y := by
  have hs : (xs.mapM f).isSome := mapM_isSome_iff.mpr fun x hx => by
    obtain ⟨i, hi⟩ := mem_iff_getElem?.mp hx
    obtain ⟨y, hy, _⟩ := h i x hi
    rw [hy]; rfl
  obtain ⟨ys, hys⟩ := Option.isSome_iff_exists.mp hs
  refine ⟨ys, hys, length_of_mapM hys, fun i y hy => ?_⟩
  obtain ⟨x, hx, hfx⟩ := getElem?_inv_of_mapM hys hy
  obtain ⟨y', hy', hP⟩ := h i x hx
  rw [hfx] at hy'; cases hy'; exact hP

theorem flatMap_of_mapM {g : β → List γ} {k : α → List γ} (h : xs.mapM f = some ys)
    (hg : ∀ x ∈ xs, ∀ y, f x = some y → g y = k x) : ys.flatMap g = xs.flatMap k := by
  rw [mapM_eq_some_iff] at h
  induction xs generalizing ys with
  | nil => cases ys <;> simp_all
  | cons x xs ih =>
    cases ys with
    | nil => simp at h
    | cons y ys =>
      simp only [map_cons, cons.injEq] at h
      rw [flatMap_cons, flatMap_cons, hg x mem_cons_self y h.1,
        ih h.2 (fun x' hx' => hg x' (mem_cons_of_mem _ hx'))]

theorem mapM_indep {f' : α → Option β} {vis : β → γ}
    (hf : ∀ x, ∃ g : β → β, f' x = (f x).map g ∧ ∀ y, vis (g y) = vis y) (h : xs.mapM f = some ys) :
    ∃ ys', xs.mapM f' = some ys' ∧ ys'.map vis = ys.map vis := by
  rw [mapM_eq_some_iff] at h
  induction xs generalizing ys with
  | nil => cases ys <;> simp_all
  | cons x xs ih =>
    cases ys with
    | nil => simp at h
    | cons y ys =>
      simp only [map_cons, cons.injEq] at h
      obtain ⟨g, hg, hv⟩ := hf x
      obtain ⟨ys', hys', hvis⟩ := ih h.2
      exact ⟨g y :: ys', by rw [mapM_cons, hg, h.1, hys']; rfl, by simp [hv, hvis]⟩

section Pair
variable {κ : Type} {F : κ → Option β} {l : List κ} {vals : List (κ × β)}

theorem mapM_pair_mem (h : l.mapM (fun k => (F k).map (fun v => (k, v))) = some vals) {k : κ} {v : β} :
    (k, v) ∈ vals ↔ k ∈ l ∧ F k = some v := by
  rw [mem_iff_of_mapM h]
  constructor
  · rintro ⟨a, ha, hav⟩
    obtain ⟨v', hc, e⟩ := Option.map_eq_some_iff.mp hav
    cases e; exact ⟨ha, hc⟩
  · rintro ⟨hk, hv⟩
    exact ⟨k, hk, by rw [hv]; rfl⟩

theorem mapM_pair_lookup [BEq κ] [LawfulBEq κ] (h : l.mapM (fun k => (F k).map (fun v => (k, v))) = some vals)
    {k : κ} (hk : k ∈ l) : vals.lookup k = F k := by
  obtain ⟨⟨_, v⟩, hv, e⟩ := exists_mem_of_mapM h hk
  obtain ⟨_, hF, e⟩ := Option.map_eq_some_iff.mp e
  cases e
  rw [hF]
  exact lookup_of_mem_of_unique hv fun _ h' => Option.some.inj (((mapM_pair_mem h).mp h').2.symm.trans hF)

end Pair

end List
