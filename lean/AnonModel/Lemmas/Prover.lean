import AnonModel.Lemmas.ProverDefs
import AnonModel.Lemmas.VerifierLegacy
import AnonModel.Lemmas.List
/-!
# The legacy prover model (`Model/Prover.lean`), characterised

What `createPresentation` returns is described at three levels: `rpEntry_some` (what one `(referent, revealed)` contributes to `requested_proof`), `SubChar` (the
sub-proof `addSubProof` builds for a selection entry: its equality proof and predicates by membership),
`LegacyChar` (the presentation, map by map, over the used selection entries). `Props/C04.lean` and
`Props/C07.lean` rest on these; the W3C prover is in `Lemmas/ProverW3C.lean`.
-/
namespace AnonModel.Prover
open AnonModel.Verifier AnonModel.IdealCL

section Assoc
variable {α β γ : Type}

theorem lookup_isSome_of_mem_keys {l : List (String × β)} {k : String} (h : k ∈ l.map Prod.fst) :
    ∃ b, l.lookup k = some b :=
  List.lookup_of_mem_keys h

end Assoc

theorem mem_dedup {α : Type} [BEq α] [LawfulBEq α] {x : α} {l : List α} : x ∈ dedup l ↔ x ∈ l := by
  induction l with
  | nil => simp [dedup]
  | cons a l ih =>
    simp only [dedup, List.mem_cons, List.mem_filter, ih]
    by_cases hx : x = a <;> simp [hx]

theorem credValue_some {c : HeldCred} {n : String} {re : String × String} (h : credValue c n = some re) :
    ∃ k, (k, re) ∈ c.values ∧ Names.commonView k = Names.commonView n := by
  obtain ⟨kv, hl, rfl⟩ := Option.map_eq_some_iff.mp h
  exact ⟨kv.1, Names.lookupNorm_some hl⟩

section Entry
variable {r : Request} {c : HeldCred} {i : Nat}

theorem rpEntry_some {ref : String} {b : Bool} {e : RpPart} (h : rpEntry r c i (ref, b) = some e) :
    (b = false ∧ e = { RpPart.empty with unrevealed := [(ref, i)] }) ∨
    b = true ∧ ∃ ai, r.attrs.lookup ref = some ai ∧
      ((∃ name re, ai.name = some name ∧ credValue c name = some re ∧
          e = { RpPart.empty with revealed := [(ref, { idx := i, raw := re.1, encoded := re.2 })] }) ∨
       (ai.name = none ∧ ∃ names vals, ai.names = some names ∧
          names.eraseDups.mapM (fun n => (credValue c n).map (fun re => (n, re))) = some vals ∧
          e = { RpPart.empty with groups := [(ref, { idx := i, values := vals })] }) ∨
       (ai.name = none ∧ ai.names = none ∧ e = RpPart.empty)) := by
  revert h
  -- the branches of `rpEntry` in its own order: unrequested, single, group, neither; unrevealed
  fun_cases rpEntry r c i (ref, b) <;> intro h
  case case5 hb => exact Or.inl ⟨by simpa using hb, (Option.some.inj h).symm⟩
  case case1 => cases h
  all_goals refine Or.inr ⟨‹_›, _, ‹_›, ?_⟩
  · obtain ⟨re, hc, rfl⟩ := Option.map_eq_some_iff.mp h
    exact Or.inl ⟨_, re, ‹_›, hc, rfl⟩
  · obtain ⟨vals, hv, rfl⟩ := Option.map_eq_some_iff.mp h
    exact Or.inr (Or.inl ⟨‹_›, _, vals, ‹_›, hv, rfl⟩)
  · exact Or.inr (Or.inr ⟨‹_›, ‹_›, (Option.some.inj h).symm⟩)

theorem revOf_eq (r : Request) (c : HeldCred) (i : Nat) (rr : String × Bool) :
    revOf r c i rr = [] ∨ ∃ ai name re, rr.2 = true ∧ r.attrs.lookup rr.1 = some ai ∧ ai.name = some name ∧
      credValue c name = some re ∧ revOf r c i rr = [(rr.1, { idx := i, raw := re.1, encoded := re.2 })] := by
  obtain ⟨ref, b⟩ := rr
  unfold revOf
  cases h : rpEntry r c i (ref, b) with
  | none => exact Or.inl rfl
  | some e =>
    rcases rpEntry_some h with ⟨_, rfl⟩ | ⟨hb, ai, hl, ⟨name, re, hn, hc, rfl⟩ | ⟨_, _, _, _, _, rfl⟩ | ⟨_, _, rfl⟩⟩
    · exact Or.inl rfl
    · exact Or.inr ⟨ai, name, re, hb, hl, hn, hc, rfl⟩
    · exact Or.inl rfl
    · exact Or.inl rfl

theorem grpOf_eq (r : Request) (c : HeldCred) (i : Nat) (rr : String × Bool) :
    grpOf r c i rr = [] ∨ ∃ ai names vals, rr.2 = true ∧ r.attrs.lookup rr.1 = some ai ∧ ai.name = none ∧
      ai.names = some names ∧
      names.eraseDups.mapM (fun n => (credValue c n).map (fun re => (n, re))) = some vals ∧
      grpOf r c i rr = [(rr.1, { idx := i, values := vals })] := by
  obtain ⟨ref, b⟩ := rr
  unfold grpOf
  cases h : rpEntry r c i (ref, b) with
  | none => exact Or.inl rfl
  | some e =>
    rcases rpEntry_some h with ⟨_, rfl⟩ | ⟨hb, ai, hl, ⟨_, _, _, _, rfl⟩ | ⟨hn, names, vals, hns, hv, rfl⟩ | ⟨_, _, rfl⟩⟩
    · exact Or.inl rfl
    · exact Or.inl rfl
    · exact Or.inr ⟨ai, names, vals, hb, hl, hn, hns, hv, rfl⟩
    · exact Or.inl rfl

theorem unrOf_eq (r : Request) (c : HeldCred) (i : Nat) (rr : String × Bool) :
    unrOf r c i rr = if rr.2 then [] else [(rr.1, i)] := by
  obtain ⟨ref, b⟩ := rr
  unfold unrOf
  cases h : rpEntry r c i (ref, b) with
  | none =>
    cases b with
    | false => cases h
    | true => rfl
  | some e =>
    rcases rpEntry_some h with ⟨rfl, rfl⟩ | ⟨rfl, ai, hl, ⟨_, _, _, _, rfl⟩ | ⟨_, _, _, _, _, rfl⟩ | ⟨_, _, rfl⟩⟩ <;> rfl

theorem mem_revOf {rr : String × Bool} {k : String} {info : RevealedInfo} : (k, info) ∈ revOf r c i rr ↔
    rr = (k, true) ∧ ∃ ai name re, r.attrs.lookup k = some ai ∧ ai.name = some name ∧
      credValue c name = some re ∧ info = { idx := i, raw := re.1, encoded := re.2 } := by
  constructor
  · intro h
    rcases revOf_eq r c i rr with e | ⟨ai, name, re, hb, hl, hn, hc, e⟩ <;> rw [e] at h
    · cases h
    · cases List.mem_singleton.mp h
      exact ⟨Prod.ext rfl hb, ai, name, re, hl, hn, hc, rfl⟩
  · rintro ⟨rfl, ai, name, re, hl, hn, hc, rfl⟩
    simp [revOf, rpEntry, hl, hn, hc, RpPart.empty]

theorem mem_grpOf {rr : String × Bool} {k : String} {g : GroupInfo} : (k, g) ∈ grpOf r c i rr ↔
    rr = (k, true) ∧ ∃ ai names vals, r.attrs.lookup k = some ai ∧ ai.name = none ∧ ai.names = some names ∧
      names.eraseDups.mapM (fun n => (credValue c n).map (fun re => (n, re))) = some vals ∧
      g = { idx := i, values := vals } := by
  constructor
  · intro h
    rcases grpOf_eq r c i rr with e | ⟨ai, names, vals, hb, hl, hn, hns, hv, e⟩ <;> rw [e] at h
    · cases h
    · cases List.mem_singleton.mp h
      exact ⟨Prod.ext rfl hb, ai, names, vals, hl, hn, hns, hv, rfl⟩
  · rintro ⟨rfl, ai, names, vals, hl, hn, hns, hv, rfl⟩
    simp [grpOf, rpEntry, hl, hn, hns, hv, RpPart.empty]

theorem mem_unrOf {rr : String × Bool} {k : String} {j : Nat} :
    (k, j) ∈ unrOf r c i rr ↔ rr = (k, false) ∧ j = i := by
  obtain ⟨ref, b⟩ := rr
  cases b <;> simp [unrOf_eq, eq_comm]

end Entry

theorem updateRequestedProof_some {r : Request} {s : Selected} {i : Nat} {pt : RpPart}
    (h : updateRequestedProof r s i = some pt) :
    (∀ rr ∈ s.attrs, ∃ e, rpEntry r s.cred i rr = some e) ∧
    pt = { revealed := s.attrs.flatMap (revOf r s.cred i), groups := s.attrs.flatMap (grpOf r s.cred i),
           unrevealed := s.attrs.flatMap (unrOf r s.cred i), predicates := s.preds.map (fun ref => (ref, i)) } := by
  unfold updateRequestedProof at h
  obtain ⟨parts, hm, rfl⟩ := Option.map_eq_some_iff.mp h
  refine ⟨fun rr hrr => ?_, ?_⟩
  · obtain ⟨e, _, he⟩ := List.exists_mem_of_mapM hm hrr
    exact ⟨e, he⟩
  · rw [List.flatMap_of_mapM (k := revOf r s.cred i) hm (fun a _ b hb => by simp [revOf, hb]),
      List.flatMap_of_mapM (k := grpOf r s.cred i) hm (fun a _ b hb => by simp [grpOf, hb]),
      List.flatMap_of_mapM (k := unrOf r s.cred i) hm (fun a _ b hb => by simp [unrOf, hb])]

/-- closed form of the presentation `create_presentation` returns -/
structure LegacyChar (pc : PCtx) (r : Request) (sel : List Selected) (sa : List (String × String))
    (holder session uid0 : Nat) (p : Presentation) : Prop where
  valid : selectionValid sel = true
  entryOk : ∀ si ∈ (usedOf sel).zipIdx, ∀ rr ∈ si.1.attrs, ∃ e, rpEntry r si.1.cred si.2 rr = some e
  revealed : p.revealed = (usedOf sel).zipIdx.flatMap (fun si => si.1.attrs.flatMap (revOf r si.1.cred si.2))
  groups : p.groups = (usedOf sel).zipIdx.flatMap (fun si => si.1.attrs.flatMap (grpOf r si.1.cred si.2))
  unrevealed : p.unrevealed = (usedOf sel).zipIdx.flatMap (fun si => si.1.attrs.flatMap (unrOf r si.1.cred si.2))
  predicates : p.predicates = (usedOf sel).zipIdx.flatMap (fun si => si.1.preds.map (fun ref => (ref, si.2)))
  selfAttested : p.selfAttested = sa
  identifiers : p.identifiers = (usedOf sel).map identOf
  subs : (usedOf sel).zipIdx.mapM (fun si => addSubProof pc r si.1 holder session (uid0 + si.2)) = some p.subs
  agg : p.agg = { nonce := r.nonce, bound := p.subs.map (fun s => (s.uid, s.nrp.isSome)), intact := true }

theorem createPresentation_char {pc : PCtx} {r : Request} {sel : List Selected}
    {sa : List (String × String)} {holder session uid0 : Nat} {p : Presentation}
    (h : createPresentation pc r sel sa holder session uid0 = some p) :
    LegacyChar pc r sel sa holder session uid0 p := by
  revert h
  fun_cases createPresentation pc r sel sa holder session uid0 <;> intro h <;> cases h
  -- the one case that returns: the selection is valid (`hv`), both `mapM`s succeed (`hp : … = some parts`, `hs : … = some subs`)
  rename_i hv _ parts subs hs hp
  refine ⟨by simpa using hv, fun si hsi rr hrr => ?_, ?_, ?_, ?_, ?_, rfl, rfl, hs, rfl⟩
  · obtain ⟨pt, _, hpt⟩ := List.exists_mem_of_mapM hp hsi
    exact (updateRequestedProof_some hpt).1 rr hrr
  all_goals exact List.flatMap_of_mapM hp (fun si _ pt hpt => by rw [(updateRequestedProof_some hpt).2])

section Sub
open AnonModel.Names

/-- the predicate a predicate referent asks for, as handed to the CL sub-proof request -/
def predOfInfo (q : PredInfo) : Pred := { attr := q.name, ty := q.ty, value := q.value }

/-- `name` normalised, as `buildSub` does -/
def normPred (p : Pred) : Pred := { p with attr := Names.commonView p.attr }

/-- the holder marked as revealed a referent among `attrs` that names attribute `n` -/
def MarkedRevealed (r : Request) (attrs : List (String × Bool)) (n : String) : Prop :=
  ∃ ref info, (ref, true) ∈ attrs ∧ r.attrs.lookup ref = some info ∧ n ∈ info.allNames

theorem MarkedRevealed.single {r : Request} {attrs : List (String × Bool)} {ref : String} {ai : AttrInfo}
    {n : String} (hm : (ref, true) ∈ attrs) (hl : r.attrs.lookup ref = some ai) (h : ai.name = some n) :
    MarkedRevealed r attrs n :=
  ⟨ref, ai, hm, hl, by simp [AttrInfo.allNames, h]⟩

theorem MarkedRevealed.member {r : Request} {attrs : List (String × Bool)} {ref : String} {ai : AttrInfo}
    {ns : List String} {n : String} (hm : (ref, true) ∈ attrs) (hl : r.attrs.lookup ref = some ai)
    (h : ai.names = some ns) (hn : n ∈ ns) : MarkedRevealed r attrs n :=
  ⟨ref, ai, hm, hl, by simp [AttrInfo.allNames, h, hn]⟩

/-- everything `ProofBuilder::add_sub_proof_request` checks, on the normalised, deduplicated names and
predicates -/
def subRequestOk (schemaAttrs : List String) (sym : SymCred) (names : List String) (preds : List Pred) : Bool :=
  (schemaAttrs.all (fun a => (sym.attrs.map Prod.fst).contains a) &&
    (sym.attrs.map Prod.fst).all (fun a => schemaAttrs.contains a)) &&
  names.all (fun n => schemaAttrs.contains n) && preds.all (fun p => schemaAttrs.contains p.attr) &&
  !preds.any (fun p => names.contains p.attr) && preds.all (predHolds sym.attrs)

theorem subRequestOk_iff {schemaAttrs : List String} {sym : SymCred} {names : List String} {preds : List Pred} :
    subRequestOk schemaAttrs sym names preds = true ↔
      (∀ a, a ∈ schemaAttrs ↔ a ∈ sym.attrs.map Prod.fst) ∧ (∀ n ∈ names, n ∈ schemaAttrs) ∧
      (∀ p ∈ preds, p.attr ∈ schemaAttrs) ∧ (∀ p ∈ preds, p.attr ∉ names) ∧
      ∀ p ∈ preds, predHolds sym.attrs p = true := by
  simp only [subRequestOk, Bool.and_eq_true, List.all_eq_true, List.contains_iff_mem, Bool.not_eq_true',
    List.any_eq_false, and_assoc]
  exact ⟨fun ⟨h1, h2, h⟩ => ⟨fun a => ⟨h1 a, h2 a⟩, h⟩, fun ⟨h1, h⟩ => ⟨fun a => (h1 a).mp, fun a => (h1 a).mpr, h⟩⟩

theorem buildSub_eq (schemaAttrs : List String) (sym : SymCred) (revealedNames : List String)
    (preds : List Pred) (nrp : Option SymNrp) (holder session uid : Nat) :
    buildSub schemaAttrs sym revealedNames preds nrp holder session uid =
      if subRequestOk schemaAttrs sym (dedup (revealedNames.map commonView)) (dedup (preds.map normPred)) then
        ((dedup (revealedNames.map commonView)).mapM (fun n => (sym.attrs.lookup n).map (fun v => (n, v)))).map
          (fun revealed => { revealed := revealed, preds := dedup (preds.map normPred), cred := sym, nrp := nrp,
                             ms := (holder, session), intact := true, uid := uid })
      else none := by
  unfold buildSub subRequestOk
  simp only [show (fun p : Pred => { p with attr := commonView p.attr }) = normPred from rfl]
  -- both sides are built from the same five Booleans and one `mapM`: named, they leave a finite case analysis
  generalize dedup (revealedNames.map commonView) = names
  generalize dedup (preds.map normPred) = preds'
  generalize (schemaAttrs.all _ && _) = a
  generalize names.all _ = b
  generalize preds'.all (fun p => schemaAttrs.contains p.attr) = c
  generalize preds'.any _ = d
  generalize preds'.all (predHolds sym.attrs) = e
  generalize List.mapM (m := Option) _ names = m
  cases a; · rfl
  cases b; · rfl
  cases c; · rfl
  cases d
  · cases e; · rfl
    cases m <;> rfl
  · rfl

theorem requestedAttrs_some {r : Request} {refs : List String} {names : List String}
    {iv : Option Interval.Ivl} (h : requestedAttrs r refs = some (names, iv)) :
    ∃ infos, refs.mapM (fun ref => r.attrs.lookup ref) = some infos ∧
      names = infos.flatMap (·.allNames) ∧ iv = Interval.foldLocals (infos.map (·.nonRevoked)) := by
  obtain ⟨infos, hm, e⟩ := Option.map_eq_some_iff.mp h
  cases e
  exact ⟨infos, hm, rfl, rfl⟩

theorem requestedPreds_some {r : Request} {refs : List String} {preds : List Pred}
    {iv : Option Interval.Ivl} (h : requestedPreds r refs = some (preds, iv)) :
    ∃ infos, refs.mapM (fun ref => r.preds.lookup ref) = some infos ∧
      preds = infos.map predOfInfo ∧ iv = Interval.foldLocals (infos.map (·.nonRevoked)) := by
  obtain ⟨infos, hm, e⟩ := Option.map_eq_some_iff.mp h
  cases e
  exact ⟨infos, hm, rfl, rfl⟩

theorem addSubProof_some {pc : PCtx} {r : Request} {s : Selected} {holder session uid : Nat}
    {sub : SymSub} (h : addSubProof pc r s holder session uid = some sub) :
    ∃ schemaAttrs ainfos pinfos,
      pc.schemas.lookup s.cred.schemaId = some schemaAttrs ∧
      ((s.attrs.filter (·.2)).map Prod.fst).mapM (fun ref => r.attrs.lookup ref) = some ainfos ∧
      s.preds.mapM (fun ref => r.preds.lookup ref) = some pinfos ∧
      buildSub (schemaAttrs.map Names.commonView) s.cred.sym (ainfos.flatMap (·.allNames))
        (pinfos.map predOfInfo) (nrpOf r s) holder session uid = some sub := by
  revert h
  fun_cases addSubProof pc r s holder session uid <;> intro h <;> try cases h
  -- the one case that can return: the schema is known (`hsc`), `requestedAttrs` gives `(names, aIv)` (`ha`) and
  -- `requestedPreds` gives `(preds, pIv)` (`hp`); `h` is then the call of `buildSub`
  rename_i schemaAttrs hsc _ names aIv preds pIv hp ha _
  obtain ⟨ainfos, hma, rfl, rfl⟩ := requestedAttrs_some ha
  obtain ⟨pinfos, hmp, rfl, rfl⟩ := requestedPreds_some hp
  refine ⟨schemaAttrs, ainfos, pinfos, hsc, hma, hmp, ?_⟩
  unfold nrpOf
  rw [ha, hp]
  exact h

theorem markedRevealed_iff {r : Request} {attrs : List (String × Bool)} {ainfos : List AttrInfo}
    (h : ((attrs.filter (·.2)).map Prod.fst).mapM (fun ref => r.attrs.lookup ref) = some ainfos) {n : String} :
    MarkedRevealed r attrs n ↔ n ∈ ainfos.flatMap (·.allNames) := by
  have hrefs : ∀ ref, ref ∈ (attrs.filter (·.2)).map Prod.fst ↔ (ref, true) ∈ attrs := by simp
  simp only [MarkedRevealed, List.mem_flatMap, List.mem_iff_of_mapM h, hrefs]
  exact ⟨fun ⟨ref, ai, hm, hl, hn⟩ => ⟨ai, ⟨ref, hm, hl⟩, hn⟩, fun ⟨ai, ⟨ref, hm, hl⟩, hn⟩ => ⟨ref, ai, hm, hl, hn⟩⟩

/-- the sub-proof `add_sub_proof` builds for selection entry `s` -/
structure SubChar (pc : PCtx) (r : Request) (s : Selected) (holder session : Nat) (sub : SymSub) : Prop where
  /-- the prover's schema names exactly the signed attributes -/
  schema : ∃ a, pc.schemas.lookup s.cred.schemaId = some a ∧
    ∀ x, x ∈ a.map commonView ↔ x ∈ s.cred.sym.attrs.map Prod.fst
  predsRequested : ∀ {ref}, ref ∈ s.preds → ∃ q, r.preds.lookup ref = some q
  /-- the equality proof: normal forms of the names marked revealed, with the signed values -/
  mem_revealed : ∀ {n v}, (n, v) ∈ sub.revealed ↔
    (∃ n0, MarkedRevealed r s.attrs n0 ∧ commonView n0 = n) ∧ s.cred.sym.attrs.lookup n = some v
  /-- the range proofs: the predicates of the entry's predicate referents, names normalised -/
  mem_preds : ∀ {pr}, pr ∈ sub.preds ↔
    ∃ ref q, ref ∈ s.preds ∧ r.preds.lookup ref = some q ∧ pr = normPred (predOfInfo q)
  predHolds : ∀ pr ∈ sub.preds, predHolds s.cred.sym.attrs pr = true
  /-- no attribute is both revealed and under a predicate (the CL crate refuses) -/
  disjoint : ∀ pr ∈ sub.preds, ∀ {n0}, MarkedRevealed r s.attrs n0 → pr.attr ≠ commonView n0
  cred : sub.cred = s.cred.sym
  nrp : sub.nrp = nrpOf r s
  ms : sub.ms = (holder, session)
  intact : sub.intact = true

theorem addSubProof_char {pc : PCtx} {r : Request} {s : Selected} {holder session uid : Nat} {sub : SymSub}
    (h : addSubProof pc r s holder session uid = some sub) : SubChar pc r s holder session sub := by
  obtain ⟨a, ainfos, pinfos, ha, hma, hmp, hb⟩ := addSubProof_some h
  rw [buildSub_eq] at hb
  split at hb
  case isFalse => cases hb
  rename_i hok
  obtain ⟨hsch, _, _, hdis, hholds⟩ := subRequestOk_iff.mp hok
  obtain ⟨revealed, hrev, rfl⟩ := Option.map_eq_some_iff.mp hb
  have hnames : ∀ {n}, n ∈ dedup ((ainfos.flatMap (·.allNames)).map commonView) ↔
      ∃ n0, MarkedRevealed r s.attrs n0 ∧ commonView n0 = n := by
    intro n
    simp only [mem_dedup, List.mem_map, markedRevealed_iff hma]
  have hpreds : ∀ {pr}, pr ∈ dedup ((pinfos.map predOfInfo).map normPred) ↔
      ∃ ref q, ref ∈ s.preds ∧ r.preds.lookup ref = some q ∧ pr = normPred (predOfInfo q) := by
    intro pr
    simp only [mem_dedup, List.map_map, List.mem_map, List.mem_iff_of_mapM hmp]
    exact ⟨fun ⟨q, ⟨ref, href, hl⟩, e⟩ => ⟨ref, q, href, hl, e.symm⟩,
      fun ⟨ref, q, href, hl, e⟩ => ⟨q, ⟨ref, href, hl⟩, e.symm⟩⟩
  refine ⟨⟨a, ha, hsch⟩, fun href => ?_, ?_, hpreds, hholds,
    fun pr hpr n0 hm e => hdis pr hpr (e ▸ hnames.mpr ⟨n0, hm, rfl⟩), rfl, rfl, rfl, rfl⟩
  · obtain ⟨q, _, hl⟩ := List.exists_mem_of_mapM hmp href
    exact ⟨q, hl⟩
  · intro n v
    rw [List.mapM_pair_mem hrev, hnames]

variable {pc : PCtx} {r : Request} {s : Selected} {holder session : Nat} {sub : SymSub}

theorem SubChar.normal (ch : SubChar pc r s holder session sub) :
    (∀ kv ∈ sub.revealed, commonView kv.1 = kv.1) ∧ (∀ pr ∈ sub.preds, commonView pr.attr = pr.attr) := by
  constructor
  · intro kv hkv
    obtain ⟨⟨n0, _, e⟩, _⟩ := ch.mem_revealed.mp hkv
    rw [← e, Names.commonView_idem]
  · intro pr hpr
    obtain ⟨_, q, _, _, rfl⟩ := ch.mem_preds.mp hpr
    exact Names.commonView_idem _

theorem SubChar.revealed_ok (ch : SubChar pc r s holder session sub) {n0 : String}
    (hm : MarkedRevealed r s.attrs n0) {n : String} (hn : commonView n = commonView n0) {enc : String}
    (he : s.cred.sym.attrs.lookup (commonView n0) = some (Encode.normalizeEnc enc)) :
    revealedValueOk n sub enc = true := by
  unfold revealedValueOk
  rw [Names.lookupNorm_congr sub.revealed hn, Names.lookupNorm_of_normal n0 ch.normal.1,
    List.lookup_of_mem_of_unique (ch.mem_revealed.mpr ⟨⟨n0, hm, rfl⟩, he⟩)
      (fun v' h' => Option.some.inj ((ch.mem_revealed.mp h').2.symm.trans he))]
  simp

theorem SubChar.pred_of (ch : SubChar pc r s holder session sub) {ref : String} (hp : ref ∈ s.preds)
    {q : PredInfo} (hq : r.preds.lookup ref = some q) : normPred (predOfInfo q) ∈ sub.preds :=
  ch.mem_preds.mpr ⟨ref, q, hp, hq, rfl⟩

theorem SubChar.proves (ch : SubChar pc r s holder session sub) {ref : String} (hp : ref ∈ s.preds)
    {q : PredInfo} (hq : r.preds.lookup ref = some q) {k : String} (hk : commonView k = commonView q.name) :
    ∃ pr ∈ sub.preds, commonView pr.attr = commonView k ∧ pr.ty = q.ty ∧ pr.value = q.value :=
  ⟨_, ch.pred_of hp hq, (Names.commonView_idem q.name).trans hk.symm, rfl, rfl⟩

theorem SubChar.pred_not_revealed (ch : SubChar pc r s holder session sub) {ref : String} (hp : ref ∈ s.preds)
    {q : PredInfo} (hq : r.preds.lookup ref = some q) {n : String} (hn : commonView n = commonView q.name) :
    ¬ MarkedRevealed r s.attrs n :=
  fun hm => ch.disjoint _ (ch.pred_of hp hq) hm hn.symm

/-! ### the outputs do not depend on link secret, session, numbering -/

theorem buildSub_indep (schemaAttrs : List String) (sym : SymCred) (names : List String)
    (preds : List Pred) (nrp : Option SymNrp) (h s u h' s' u' : Nat) :
    buildSub schemaAttrs sym names preds nrp h s u =
      (buildSub schemaAttrs sym names preds nrp h' s' u').map
        (fun sub => { sub with ms := (h, s), uid := u }) := by
  rw [buildSub_eq, buildSub_eq]
  split
  · rw [Option.map_map]; rfl
  · rfl

theorem addSubProof_indep (pc : PCtx) (r : Request) (sl : Selected) (h s u h' s' u' : Nat) :
    addSubProof pc r sl h s u =
      (addSubProof pc r sl h' s' u').map (fun sub => { sub with ms := (h, s), uid := u }) := by
  unfold addSubProof
  split
  · rfl
  · split
    · rfl
    · split
      · exact buildSub_indep ..
      · rfl

end Sub

/-! ## referents are served once -/

/-- `PresentCredentials::validate` -/
theorem selectionValid_iff {sel : List Selected} : selectionValid sel = true ↔
    (sel.flatMap (fun s => s.attrs.map Prod.fst)).Nodup ∧ (sel.flatMap (·.preds)).Nodup ∧
    ∀ s ∈ sel, s.timestamp.isSome = s.revState.isSome := by
  simp [selectionValid, Verifier.noDup_iff, and_assoc]

theorem used_attr_keys_nodup {sel : List Selected} (hv : selectionValid sel = true) :
    ((usedOf sel).zipIdx.flatMap (fun si => si.1.attrs.map Prod.fst)).Nodup := by
  rw [List.zipIdx_flatMap_fst (usedOf sel) (fun s => s.attrs.map Prod.fst)]
  exact (selectionValid_iff.mp hv).1.sublist (List.sublist_flatMap List.filter_sublist)

theorem used_pred_keys_nodup {sel : List Selected} (hv : selectionValid sel = true) :
    ((usedOf sel).zipIdx.flatMap (fun si => si.1.preds)).Nodup := by
  rw [List.zipIdx_flatMap_fst (usedOf sel) (fun s => s.preds)]
  exact (selectionValid_iff.mp hv).2.1.sublist (List.sublist_flatMap List.filter_sublist)

theorem used_state_iff {sel : List Selected} (hv : selectionValid sel = true) {s : Selected}
    (hs : s ∈ usedOf sel) : s.timestamp.isSome = s.revState.isSome :=
  (selectionValid_iff.mp hv).2.2 s (List.mem_filter.mp hs).1

theorem sel_pred_unique {sel : List Selected} (hv : selectionValid sel = true)
    {si si' : Selected × Nat} (h1 : si ∈ (usedOf sel).zipIdx) (h2 : si' ∈ (usedOf sel).zipIdx)
    {k : String} (hb : k ∈ si.1.preds) (hb' : k ∈ si'.1.preds) : si = si' :=
  List.keyed_unique (used_pred_keys_nodup hv) h1 h2 hb hb'

end AnonModel.Prover
