import AnonModel.Model.Interval
/-!
Interval algebra for C08. The three merges of the model are `Option.merge` of `max`, `min` and
`merge`; commutativity, associativity, idempotence and "the result is one of the arguments" then
come from core's instances for `Option.merge`, and validity distributes by `Option.all_merge`.
-/
namespace AnonModel.Interval

/-- the lower-bound test of `is_valid`: a missing bound is `0` -/
def loOk (lo : Option Nat) (t : Nat) : Prop := (match lo with | some f => f | none => 0) ≤ t

/-- the upper-bound test of `is_valid`: a missing bound is `u64::MAX` -/
def hiOk (hi : Option Nat) (t : Nat) : Prop := t ≤ (match hi with | some u => u | none => u64Max)

/-- "no interval, no constraint; else `is_valid`" -/
def validOpt (i : Option Ivl) (t : Nat) : Bool :=
  match i with
  | none => true
  | some i => valid i t

theorem valid_iff (i : Ivl) (t : Nat) : valid i t = true ↔ loOk i.lo t ∧ hiOk i.hi t := by
  simp only [valid, loOk, hiOk, Bool.not_eq_true', Bool.or_eq_false_iff, decide_eq_false_iff_not,
    Nat.not_lt, gt_iff_lt]
  exact Iff.rfl

theorem hiOk_none_of_lt {t : Nat} (ht : t < 2 ^ 64) : hiOk none t := by
  simp only [hiOk, u64Max]; omega

theorem loOk_none (t : Nat) : loOk none t := Nat.zero_le t

theorem validOpt_eq_all (i : Option Ivl) (t : Nat) : validOpt i t = i.all (valid · t) := by
  cases i <;> rfl

theorem mergeLo_eq : mergeLo = Option.merge max := by
  funext a b; cases a <;> cases b <;> try rfl
  simp only [mergeLo, Option.merge]; split <;> congr 1 <;> omega

theorem mergeHi_eq : mergeHi = Option.merge min := by
  funext a b; cases a <;> cases b <;> try rfl
  simp only [mergeHi, Option.merge]; split <;> congr 1 <;> omega

theorem mergeOpt_eq : mergeOpt = Option.merge merge := by
  funext x y; cases x <;> cases y <;> rfl

theorem merge_eq (a b : Ivl) :
    merge a b = ⟨Option.merge max a.lo b.lo, Option.merge min a.hi b.hi⟩ := by
  rw [merge, mergeLo_eq, mergeHi_eq]

theorem merge_comm (a b : Ivl) : merge a b = merge b a := by
  simp only [merge_eq, Std.Commutative.comm (op := Option.merge max) a.lo,
    Std.Commutative.comm (op := Option.merge min) a.hi]

theorem merge_assoc (a b c : Ivl) : merge (merge a b) c = merge a (merge b c) := by
  simp only [merge_eq, Std.Associative.assoc (op := Option.merge max),
    Std.Associative.assoc (op := Option.merge min)]

instance : Std.Commutative merge := ⟨merge_comm⟩
instance : Std.Associative merge := ⟨merge_assoc⟩

theorem merge_lo_mem (a b : Ivl) : (merge a b).lo = a.lo ∨ (merge a b).lo = b.lo := by
  rw [merge_eq]; exact Option.merge_eq_or_eq (fun x y => by omega) _ _

theorem merge_hi_mem (a b : Ivl) : (merge a b).hi = a.hi ∨ (merge a b).hi = b.hi := by
  rw [merge_eq]; exact Option.merge_eq_or_eq (fun x y => by omega) _ _

theorem loOk_mergeLo (a b : Option Nat) (t : Nat) :
    loOk (mergeLo a b) t ↔ loOk a t ∧ loOk b t := by
  rw [mergeLo_eq]; cases a <;> cases b <;> simp only [Option.merge, loOk] <;> omega

theorem hiOk_mergeHi (a b : Option Nat) (t : Nat) (ht : t < 2 ^ 64) :
    hiOk (mergeHi a b) t ↔ hiOk a t ∧ hiOk b t := by
  rw [mergeHi_eq]; cases a <;> cases b <;> simp only [Option.merge, hiOk, u64Max] <;> omega

theorem hiOk_mergeHi_of (a b : Option Nat) (t : Nat) (ha : hiOk a t) (hb : hiOk b t) :
    hiOk (mergeHi a b) t := by
  rw [mergeHi_eq]
  rcases Option.merge_eq_or_eq (f := min) (fun x y => by omega) a b with h | h <;> rw [h] <;> assumption

theorem valid_merge (a b : Ivl) (t : Nat) (ht : t < 2 ^ 64) :
    valid (merge a b) t = (valid a t && valid b t) := by
  rw [Bool.eq_iff_iff]
  simp only [Bool.and_eq_true, valid_iff, merge, loOk_mergeLo, hiOk_mergeHi _ _ _ ht]
  exact ⟨fun ⟨⟨h1, h2⟩, h3, h4⟩ => ⟨⟨h1, h3⟩, h2, h4⟩, fun ⟨⟨h1, h3⟩, h2, h4⟩ => ⟨⟨h1, h2⟩, h3, h4⟩⟩

theorem validOpt_mergeOpt (x y : Option Ivl) (t : Nat) (ht : t < 2 ^ 64) :
    validOpt (mergeOpt x y) t = (validOpt x t && validOpt y t) := by
  simp only [validOpt_eq_all, mergeOpt_eq]
  exact Option.all_merge (fun a b => valid_merge a b t ht)

theorem foldLocals_nil : foldLocals [] = none := rfl

/-- not an unfolding: the model folds from the left starting at `none`; `merge` being associative, the first element can be
taken out in front -/
theorem foldLocals_cons (x : Option Ivl) (xs : List (Option Ivl)) :
    foldLocals (x :: xs) = mergeOpt x (foldLocals xs) := by
  simp only [foldLocals, mergeOpt_eq, List.foldl_cons, Option.merge_none_left]
  rw [← List.foldl_assoc (op := Option.merge merge), Option.merge_none_right]

/-- attribute-side and predicate-side folds, merged as `check_non_revoked_interval` does,
are the fold over all the referents -/
theorem foldLocals_append (xs ys : List (Option Ivl)) :
    foldLocals (xs ++ ys) = mergeOpt (foldLocals xs) (foldLocals ys) := by
  induction xs with
  | nil => rw [List.nil_append, foldLocals_nil, mergeOpt_eq, Option.merge_none_left]
  | cons x xs ih =>
    simp only [List.cons_append, foldLocals_cons, ih, mergeOpt_eq,
      Std.Associative.assoc (op := Option.merge merge)]

theorem foldLocals_isSome (ls : List (Option Ivl)) :
    (foldLocals ls).isSome = true ↔ ∃ l, some l ∈ ls := by
  induction ls with
  | nil => simp [foldLocals_nil]
  | cons x xs ih =>
    rw [foldLocals_cons, mergeOpt_eq, Option.isSome_merge, Bool.or_eq_true, ih]
    cases x <;> simp

theorem foldLocals_induct {P : Ivl → Prop} (hm : ∀ a b, P a → P b → P (merge a b))
    {ls : List (Option Ivl)} {T : Ivl} (hT : foldLocals ls = some T)
    (h : ∀ l, some l ∈ ls → P l) : P T := by
  induction ls generalizing T with
  | nil => cases hT
  | cons x xs ih =>
    rw [foldLocals_cons, mergeOpt_eq] at hT
    have hxs : ∀ T', foldLocals xs = some T' → P T' :=
      fun T' hT' => ih hT' (fun l hl => h l (List.mem_cons_of_mem _ hl))
    match x, foldLocals xs, hT, hxs with
    | some a, none, rfl, _ => exact h a (List.mem_cons_self ..)
    | none, some b, rfl, hxs => exact hxs b rfl
    | some a, some b, rfl, hxs => exact hm a b (h a (List.mem_cons_self ..)) (hxs b rfl)

theorem foldLocals_hi_mem (ls : List (Option Ivl)) (T : Ivl) (hT : foldLocals ls = some T) :
    ∃ l, some l ∈ ls ∧ T.hi = l.hi :=
  foldLocals_induct (P := fun T => ∃ l, some l ∈ ls ∧ T.hi = l.hi)
    (fun a b ha hb => by rcases merge_hi_mem a b with e | e <;> rw [e] <;> assumption)
    hT (fun l hl => ⟨l, hl, rfl⟩)

theorem applyOverride_eq (m : List (Nat × Nat)) (i : Ivl) :
    applyOverride m i = ⟨i.lo.map (fun f => (m.lookup f).getD f), i.hi⟩ := by
  obtain ⟨lo, hi⟩ := i
  cases lo with
  | none => rfl
  | some f => simp only [applyOverride, Option.map_some]; cases m.lookup f <;> rfl

theorem overrideFor_eq (id : String) (ovr : Option Overrides) (i : Ivl) :
    overrideFor id ovr i =
      ⟨i.lo.map (fun f => ((ovr.bind (·.lookup id)).bind (·.lookup f)).getD f), i.hi⟩ := by
  unfold overrideFor
  cases ovr with
  | none => obtain ⟨lo, hi⟩ := i; cases lo <;> rfl
  | some maps =>
    simp only [Option.bind_some]
    cases maps.lookup id with
    | none => obtain ⟨lo, hi⟩ := i; cases lo <;> rfl
    | some m => exact applyOverride_eq m i

theorem overrideFor_hi (id : String) (ovr : Option Overrides) (i : Ivl) :
    (overrideFor id ovr i).hi = i.hi := by
  rw [overrideFor_eq]

theorem overrideFor_lo_congr (id : String) (ovr : Option Overrides) (i j : Ivl)
    (h : i.lo = j.lo) : (overrideFor id ovr i).lo = (overrideFor id ovr j).lo := by
  rw [overrideFor_eq, overrideFor_eq, h]

/-- the merged lower bound is one of the two, so its override is that one's -/
theorem valid_overrideFor_merge {id : String} {ovr : Option Overrides} {a b : Ivl} {t : Nat}
    (ha : valid (overrideFor id ovr a) t = true) (hb : valid (overrideFor id ovr b) t = true) :
    valid (overrideFor id ovr (merge a b)) t = true := by
  rw [valid_iff, overrideFor_hi] at *
  refine ⟨?_, hiOk_mergeHi_of _ _ t ha.2 hb.2⟩
  rcases merge_lo_mem a b with e | e <;> rw [overrideFor_lo_congr id ovr _ _ e]
  · exact ha.1
  · exact hb.1

theorem checkTs_some_some (i : Ivl) (t : Nat) : checkTs (some i) (some t) = valid i t := rfl

theorem checkTs_some_iff (i : Ivl) (ts : Option Nat) :
    checkTs (some i) ts = true ↔ ∃ t, ts = some t ∧ valid i t = true := by
  cases ts <;> simp [checkTs]

theorem checkTs_validOpt (i : Option Ivl) (t : Nat) : checkTs i (some t) = validOpt i t := by
  cases i <;> rfl

theorem checkTs_none (i : Option Ivl) : checkTs i none = !i.isSome := by
  cases i <;> rfl

theorem requested_some (id : String) (loc glob : Option Ivl) (ovr : Option Overrides) :
    requested (some id) loc glob ovr = (loc.or glob).map (overrideFor id ovr) := by
  cases loc <;> cases glob <;> rfl

end AnonModel.Interval
