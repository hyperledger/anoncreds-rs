import AnonModel.Model.IdealCL
import AnonModel.Lemmas.Assoc
/-! What the verdicts of the ideal CL functionality (`Model/IdealCL.lean`) say, as propositions. -/
namespace AnonModel.IdealCL

theorem primaryOk_iff {c : SubCtx} {s : SymSub} :
    primaryOk c s = true ↔
      s.intact = true ∧ s.cred.key = c.key ∧
      (∀ a, a ∈ c.schemaAttrs ↔ a ∈ s.cred.attrs.map Prod.fst) ∧
      (∀ kv ∈ s.revealed, s.cred.attrs.lookup kv.1 = some kv.2) ∧
      (∀ pr ∈ s.preds, predHolds s.cred.attrs pr = true) := by
  simp only [primaryOk, Bool.and_eq_true, decide_eq_true_eq, List.all_eq_true, List.contains_iff_mem,
    beq_iff_eq]
  exact ⟨fun ⟨⟨⟨⟨h1, h2⟩, h3, h4⟩, h5⟩, h6⟩ => ⟨h1, h2, fun a => ⟨h3 a, h4 a⟩, h5, h6⟩,
    fun ⟨h1, h2, h3, h5, h6⟩ => ⟨⟨⟨⟨h1, h2⟩, fun a => (h3 a).mp, fun a => (h3 a).mpr⟩, h5⟩, h6⟩⟩

theorem paramsConsistent_iff {s : SymSub} :
    paramsConsistent s = true ↔
      (∀ kv ∈ s.revealed, Names.commonView kv.1 = kv.1) ∧
      (∀ pr ∈ s.preds, Names.commonView pr.attr = pr.attr) := by
  simp [paramsConsistent]

theorem nrpOk_some {c : SubCtx} {s : SymSub} {n : SymNrp} (hn : s.nrp = some n)
    (h : nrpOk c s = true) :
    n.witOk = true ∧ c.regKey = some n.regKey ∧ c.acc = some n.acc ∧
      s.cred.rev = some (n.regKey, n.idx) := by
  simp only [nrpOk, hn, Bool.and_eq_true, decide_eq_true_eq] at h
  exact ⟨h.1.1.1, h.1.1.2.symm, h.1.2.symm, h.2⟩

theorem predHolds_mem_keys {attrs : List (String × String)} {pr : Pred}
    (h : predHolds attrs pr = true) : pr.attr ∈ attrs.map Prod.fst := by
  unfold predHolds at h
  split at h
  · cases h
  · exact List.mem_keys_of_lookup ‹_›

/-- all link-secret responses equal the first one (the `common` check of `verify`) -/
def msAgree : List SymSub → Bool
  | [] => true
  | s :: rest => rest.all (fun t => t.ms == s.ms)

theorem msAgree_iff {subs : List SymSub} :
    msAgree subs = true ↔ ∀ s ∈ subs, ∀ t ∈ subs, s.ms = t.ms := by
  cases subs with
  | nil => simp [msAgree]
  | cons s rest =>
    simp only [msAgree, List.all_eq_true, beq_iff_eq]
    refine ⟨fun h => ?_, fun h t ht => h t (List.mem_cons_of_mem _ ht) s List.mem_cons_self⟩
    have key : ∀ x ∈ s :: rest, x.ms = s.ms := fun x hx => by
      rcases List.mem_cons.mp hx with rfl | hx
      · rfl
      · exact h x hx
    intro x hx y hy; rw [key x hx, key y hy]

/-- `verify` with the link-secret check named -/
theorem verify_eq (cs : List SubCtx) (subs : List SymSub) (agg : SymAgg) (nonce : String) :
    verify cs subs agg nonce true =
      if cs.length ≠ subs.length then none
      else if !(cs.zip subs).all (fun p => paramsConsistent p.2) then none
      else if !msAgree subs then none
      else some (agg.intact && decide (agg.nonce = nonce) &&
        decide (agg.bound = (cs.zip subs).map (fun p => (p.2.uid, nrpChecked p.1 p.2))) &&
        (cs.zip subs).all (fun p => primaryOk p.1 p.2 && (!nrpChecked p.1 p.2 || nrpOk p.1 p.2))) := by
  unfold verify
  cases subs <;> simp only [msAgree, Bool.true_and] <;> rfl

/-- **`ProofVerifier::verify` (ideal version, `master_secret` registered as common attribute)
returns `Ok(true)` exactly when**: one context per sub-proof; aggregated proof unaltered, made for
this nonce over exactly these sub-proofs; one link secret; every sub-proof names its attributes in
normal form, passes the primary check against its context, and passes the non-revocation check
whenever that check is not skipped -/
theorem verify_some_true_iff {cs : List SubCtx} {subs : List SymSub} {agg : SymAgg}
    {nonce : String} :
    verify cs subs agg nonce true = some true ↔
      cs.length = subs.length ∧ agg.intact = true ∧ agg.nonce = nonce ∧
      agg.bound = (cs.zip subs).map (fun p => (p.2.uid, nrpChecked p.1 p.2)) ∧
      (∀ s ∈ subs, ∀ t ∈ subs, s.ms = t.ms) ∧
      ∀ pr ∈ cs.zip subs, paramsConsistent pr.2 = true ∧ primaryOk pr.1 pr.2 = true ∧
        (nrpChecked pr.1 pr.2 = true → nrpOk pr.1 pr.2 = true) := by
  rw [verify_eq, ← msAgree_iff]
  by_cases hlen : cs.length = subs.length <;> simp only [hlen, ne_eq, not_true, not_false_eq_true,
    if_true, if_false, false_and, reduceCtorEq, true_and]
  cases hpc : (cs.zip subs).all (fun p => paramsConsistent p.2)
  · simp only [Bool.not_false, if_true, reduceCtorEq, false_iff]
    intro h
    rw [List.all_eq_true.mpr fun pr hpr => (h.2.2.2.2 pr hpr).1] at hpc; cases hpc
  cases msAgree subs
  · simp
  simp only [Bool.not_true, Bool.false_eq_true, if_false, Option.some.injEq, Bool.and_eq_true,
    decide_eq_true_eq, List.all_eq_true, Bool.or_eq_true, Bool.not_eq_true', true_and, and_assoc]
  rw [List.all_eq_true] at hpc
  refine and_congr_right fun _ => and_congr_right fun _ => and_congr_right fun _ =>
    forall₂_congr fun pr hpr => ?_
  simp only [hpc pr hpr, true_and]
  cases nrpChecked pr.1 pr.2 <;> simp

theorem map_fst_bound {cs : List SubCtx} {subs : List SymSub} (hlen : cs.length = subs.length) :
    ((cs.zip subs).map (fun p => (p.2.uid, nrpChecked p.1 p.2))).map Prod.fst =
      subs.map (·.uid) := by
  rw [List.map_map]
  exact (List.map_map (f := Prod.snd) (g := SymSub.uid) (l := cs.zip subs)).symm.trans
    (congrArg _ (List.map_snd_zip (by omega)))

end AnonModel.IdealCL
