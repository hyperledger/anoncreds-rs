import AnonModel.Model.Ident
/-! Helper lemmas for C20: character classes, `splitColon` ↔ `join`, the URI scan,
the freshness fold. -/
namespace AnonModel.Ident

theorem inRange_iff (lo hi c : Char) :
    inRange lo hi c = true ↔ lo.toNat ≤ c.toNat ∧ c.toNat ≤ hi.toNat := by
  simp [inRange, Char.le_def, UInt32.le_iff_toNat_le]

theorem eq_iff_toNat (c d : Char) : c = d ↔ c.toNat = d.toNat := by
  simp [Char.toNat_inj]

theorem isAlpha_iff_toNat (c : Char) : c.isAlpha = true ↔
    (65 ≤ c.toNat ∧ c.toNat ≤ 90) ∨ (97 ≤ c.toNat ∧ c.toNat ≤ 122) := by
  simp [Char.isAlpha, Char.isUpper, Char.isLower, UInt32.le_iff_toNat_le]

theorem isAlphanum_iff_toNat (c : Char) : c.isAlphanum = true ↔
    (65 ≤ c.toNat ∧ c.toNat ≤ 90) ∨ (97 ≤ c.toNat ∧ c.toNat ≤ 122) ∨
      (48 ≤ c.toNat ∧ c.toNat ≤ 57) := by
  simp [Char.isAlphanum, Char.isAlpha, Char.isUpper, Char.isLower, Char.isDigit,
    UInt32.le_iff_toNat_le, or_assoc]

theorem isDigit09_iff (c : Char) : isDigit09 c = true ↔ c.isDigit = true := by
  simp only [isDigit09, inRange_iff, Char.isDigit_iff_toNat, Char.reduceToNat]

theorem isLetter_iff (c : Char) : isLetter c = true ↔ c.isAlpha = true := by
  simp only [isLetter, Bool.or_eq_true, inRange_iff, isAlpha_iff_toNat, Char.reduceToNat]; omega

theorem isAlnum_iff (c : Char) : isAlnum c = true ↔ c.isAlphanum = true := by
  simp only [isAlnum, Bool.or_eq_true, inRange_iff, isAlphanum_iff_toNat, Char.reduceToNat]; omega

theorem inRange19_iff (c : Char) : inRange '1' '9' c = true ↔ c.isDigit = true ∧ c ≠ '0' := by
  simp only [inRange_iff, Char.isDigit_iff_toNat, ne_eq, ← Char.toNat_inj, Char.reduceToNat]; omega

theorem isBase58_iff (c : Char) : isBase58 c = true ↔
    c.isAlphanum = true ∧ c ≠ '0' ∧ c ≠ 'O' ∧ c ≠ 'I' ∧ c ≠ 'l' := by
  simp only [isBase58, Bool.or_eq_true, inRange_iff, isAlphanum_iff_toNat, ne_eq, ← Char.toNat_inj,
    Char.reduceToNat]
  omega

theorem isSchemeChar_iff (c : Char) : isSchemeChar c = true ↔
    c.isAlphanum = true ∨ c = '+' ∨ c = '-' ∨ c = '.' := by
  simp [isSchemeChar, isAlnum_iff, or_assoc]

theorem isVersionChar_iff (c : Char) : isVersionChar c = true ↔ c.isDigit = true ∨ c = '.' := by
  simp [isVersionChar, isDigit09_iff]

theorem isNameL_iff (cs : List Char) : isNameL cs = true ↔ cs ≠ [] := by
  cases cs <;> simp [isNameL]

def join : List (List Char) → List Char
  | [] => []
  | [a] => a
  | a :: b :: r => a ++ ':' :: join (b :: r)

theorem splitColon_ne_nil (cs : List Char) : splitColon cs ≠ [] := by
  cases cs with
  | nil => simp [splitColon]
  | cons c cs =>
    simp only [splitColon]
    split
    · simp
    · cases splitColon cs <;> simp [consHead]

theorem join_consHead (c : Char) {l : List (List Char)} (h : l ≠ []) :
    join (consHead c l) = c :: join l := by
  match l, h with
  | [a], _ => simp [consHead, join]
  | a :: b :: r, _ => simp [consHead, join]

theorem join_cons (a : List Char) {l : List (List Char)} (h : l ≠ []) :
    join (a :: l) = a ++ ':' :: join l := by
  cases l with
  | nil => exact absurd rfl h
  | cons b r => rfl

theorem join_splitColon (cs : List Char) : join (splitColon cs) = cs := by
  induction cs with
  | nil => rfl
  | cons c cs ih =>
    simp only [splitColon]
    split
    · rw [join_cons [] (splitColon_ne_nil cs), ih, ‹c = ':'›]; rfl
    · rw [join_consHead c (splitColon_ne_nil cs), ih]

theorem noColon_consHead {c : Char} {l : List (List Char)} (hc : c ≠ ':')
    (h : ∀ p ∈ l, ':' ∉ p) : ∀ p ∈ consHead c l, ':' ∉ p := by
  cases l <;> simp_all [consHead, eq_comm]

theorem noColon_splitColon (cs : List Char) : ∀ p ∈ splitColon cs, ':' ∉ p := by
  induction cs with
  | nil => simp [splitColon]
  | cons c cs ih =>
    simp only [splitColon]
    split
    · simpa using ih
    · exact noColon_consHead ‹_› ih

theorem splitColon_noColon {a : List Char} (h : ':' ∉ a) : splitColon a = [a] := by
  induction a with
  | nil => simp [splitColon]
  | cons c cs ih =>
    simp only [List.mem_cons, not_or] at h
    have hc : c ≠ ':' := fun e => h.1 e.symm
    simp [splitColon, hc, ih h.2, consHead]

theorem splitColon_append {a : List Char} (h : ':' ∉ a) (b : List Char) :
    splitColon (a ++ ':' :: b) = a :: splitColon b := by
  induction a with
  | nil => simp [splitColon]
  | cons c cs ih =>
    simp only [List.mem_cons, not_or] at h
    have hc : c ≠ ':' := fun e => h.1 e.symm
    simp [splitColon, hc, ih h.2, consHead]

theorem splitColon_join {ps : List (List Char)} (hne : ps ≠ []) (h : ∀ p ∈ ps, ':' ∉ p) :
    splitColon (join ps) = ps := by
  induction ps with
  | nil => exact absurd rfl hne
  | cons a r ih =>
    cases r with
    | nil => exact splitColon_noColon (h a (by simp))
    | cons b r =>
      rw [join_cons a (by simp), splitColon_append (h a (by simp)),
        ih (by simp) fun p hp => h p (by simp [hp])]

theorem splitColon_eq_iff {cs : List Char} {ps : List (List Char)} :
    splitColon cs = ps ↔ ps ≠ [] ∧ (∀ p ∈ ps, ':' ∉ p) ∧ cs = join ps := by
  constructor
  · rintro rfl
    exact ⟨splitColon_ne_nil cs, noColon_splitColon cs, (join_splitColon cs).symm⟩
  · rintro ⟨hne, hnc, rfl⟩
    exact splitColon_join hne hnc

theorem isUri_ofList (l : List Char) : isUri (String.ofList l) = isUriL l :=
  congrArg isUriL String.toList_ofList

theorem isLegacyDid_ofList (l : List Char) : isLegacyDid (String.ofList l) = isLegacyDidL l :=
  congrArg isLegacyDidL String.toList_ofList

theorem isLegacySchemaId_ofList (l : List Char) :
    isLegacySchemaId (String.ofList l) = isLegacySchemaIdL l :=
  congrArg isLegacySchemaIdL String.toList_ofList

theorem isLegacyCredDefId_ofList (l : List Char) :
    isLegacyCredDefId (String.ofList l) = isLegacyCredDefIdL l :=
  congrArg isLegacyCredDefIdL String.toList_ofList

theorem isLegacyRevRegDefId_ofList (l : List Char) :
    isLegacyRevRegDefId (String.ofList l) = isLegacyRevRegDefIdL l :=
  congrArg isLegacyRevRegDefIdL String.toList_ofList

theorem uriTail_append {t : List Char} (ht : ∀ c ∈ t, isSchemeChar c = true) (rest : List Char) :
    uriTail (t ++ ':' :: rest) = (!rest.isEmpty && rest.all (fun d => d != '\n')) := by
  induction t with
  | nil => simp [uriTail]
  | cons c t ih =>
    have hc : c ≠ ':' := by rintro rfl; exact absurd (ht ':' (by simp)) (by decide)
    simp [uriTail, hc, ht c, ih fun d hd => ht d (by simp [hd])]

theorem uriTail_iff (cs : List Char) : uriTail cs = true ↔
    ∃ t rest, cs = t ++ ':' :: rest ∧ (∀ c ∈ t, isSchemeChar c = true) ∧
      rest ≠ [] ∧ '\n' ∉ rest := by
  constructor
  · intro h
    induction cs with
    | nil => simp [uriTail] at h
    | cons c cs ih =>
      by_cases hc : c = ':'
      · subst hc
        have h : cs ≠ [] ∧ ∀ d ∈ cs, d ≠ '\n' := by simpa [uriTail] using h
        exact ⟨[], cs, rfl, nofun, h.1, fun hm => h.2 _ hm rfl⟩
      · simp only [uriTail, hc, if_false, Bool.and_eq_true] at h
        obtain ⟨t, rest, rfl, ht, hr⟩ := ih h.2
        exact ⟨c :: t, rest, rfl, by simpa [h.1] using ht, hr⟩
  · rintro ⟨t, rest, rfl, ht, hne, hnl⟩
    simpa [uriTail_append ht, hne] using fun d hd (e : d = '\n') => hnl (e ▸ hd)

theorem allFresh_iff (seen ns : List String) :
    allFresh seen ns = true ↔ ns.Nodup ∧ ∀ n ∈ ns, n ∉ seen := by
  induction ns generalizing seen with
  | nil => simp [allFresh]
  | cons n ns ih =>
    by_cases hn : n ∈ seen
    · simp [allFresh, hn]
    · simp only [allFresh, List.contains_iff_mem, hn, if_false, ih, List.nodup_cons, List.mem_cons,
        not_or, forall_eq_or_imp, forall_and, not_false_eq_true, true_and]
      constructor
      · rintro ⟨hnd, h1, h2⟩; exact ⟨⟨fun hm => h1 n hm rfl, hnd⟩, h2⟩
      · rintro ⟨⟨hnm, hnd⟩, h2⟩; exact ⟨hnd, fun m hm e => hnm (e ▸ hm), h2⟩

end AnonModel.Ident
