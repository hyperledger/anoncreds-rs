import AnonModel.Model.Store
import AnonModel.Lemmas.Assoc
/-! Helper lemmas for C18: association-list algebra, the invariant of the handle-store machine and its
preservation by every micro-step, what a legal sequential history says about each handle, and the history checker. -/
namespace AnonModel.Store

def keys (m : Map) : List Nat := m.map (·.1)

theorem mapGet_remove (m : Map) (h x : Nat) :
    mapGet (mapRemove m h) x = if x = h then none else mapGet m x :=
  List.lookup_filter_key_ne m h x

theorem mapGet_insert (m : Map) (h x : Nat) (o : Obj) :
    mapGet (mapInsert m h o) x = if x = h then some o else mapGet m x :=
  List.lookup_cons_filter_key_ne m h x o

theorem mem_keys_remove (m : Map) (h x : Nat) : x ∈ keys (mapRemove m h) ↔ x ∈ keys m ∧ x ≠ h := by
  simp only [keys, mapRemove, List.mem_map, List.mem_filter]
  constructor
  · rintro ⟨e, ⟨he, hne⟩, rfl⟩; exact ⟨⟨e, he, rfl⟩, by simpa using hne⟩
  · rintro ⟨⟨e, he, rfl⟩, hne⟩; exact ⟨e, ⟨he, by simpa using hne⟩, rfl⟩

theorem keys_remove_nodup (m : Map) (h : Nat) (hn : (keys m).Nodup) : (keys (mapRemove m h)).Nodup := by
  unfold keys mapRemove
  exact hn.sublist (List.Sublist.map _ List.filter_sublist)

theorem keys_insert (m : Map) (h : Nat) (o : Obj) : keys (mapInsert m h o) = h :: keys (mapRemove m h) := rfl

theorem keys_insert_nodup (m : Map) (h : Nat) (o : Obj) (hn : (keys m).Nodup) :
    (keys (mapInsert m h o)).Nodup := by
  rw [keys_insert, List.nodup_cons]
  exact ⟨fun hm => ((mem_keys_remove m h h).mp hm).2 rfl, keys_remove_nodup m h hn⟩

theorem mem_keys_of_mapGet {m : Map} {h : Nat} {o : Obj} (hg : mapGet m h = some o) : h ∈ keys m :=
  List.mem_keys_of_lookup hg


/-- handles returned by the completed `create` operations of a history -/
def createdHandles (hist : List Rec) : List Nat :=
  hist.filterMap (fun r => match r.result with | .handle h => some h | _ => none)

theorem createdHandles_cons (r : Rec) (hist : List Rec) :
    createdHandles (r :: hist) = match r.result with
      | .handle h => h :: createdHandles hist
      | _ => createdHandles hist := by
  unfold createdHandles; rw [List.filterMap_cons]; cases r.result <;> rfl

theorem mem_createdHandles_iff {hist : List Rec} {h : Nat} :
    h ∈ createdHandles hist ↔ ∃ r ∈ hist, r.result = .handle h := by
  simp only [createdHandles, List.mem_filterMap]
  constructor
  · rintro ⟨r, hr, e⟩
    split at e
    · next x hx => exact ⟨r, hr, Option.some.inj e ▸ hx⟩
    · cases e
  · rintro ⟨r, hr, e⟩; exact ⟨r, hr, by simp [e]⟩

theorem useSnap_ne_handle (k : GetKind) (s : Option Obj) (h : Nat) : useSnap k s ≠ .handle h := by
  cases k <;> cases s <;> simp [useSnap]
  split <;> simp

theorem useSnap_some_ne_invalid (k : GetKind) (o : Obj) : useSnap k (some o) ≠ .errInvalid := by
  cases k <;> simp [useSnap]
  split <;> simp

theorem useSnap_ok (k : GetKind) (o : Obj) (hk : ∀ T, k ≠ .useAs T) : useSnap k (some o) = .ok o := by
  cases k <;> simp [useSnap]
  exact absurd rfl (hk _)

/-- a log entry belongs to a completed operation or to the in-flight `get` of its thread -/
def Accounted (threads : List Thread) (hist : List Rec) (l : Lin) : Prop :=
  (∃ r ∈ hist, r.toLin = l) ∨
  (∃ th k h s, threads[l.thread]? = some th ∧ th.pend = .snap k h s l.lin ∧
    l = ⟨l.thread, .get k h, l.lin, useSnap k s⟩)

/-- a completed operation is recorded consistently: its locked step is in the log and inside its
interval, and times and response have the form its kind of operation produces -/
structure RecOK (c : Config) (r : Rec) : Prop where
  in_log : r.toLin ∈ c.linLog
  times : r.inv ≤ r.lin ∧ r.lin ≤ r.res ∧ r.res < c.now
  kind : match r.op with
    | .create _ => r.lin = r.res ∧ ∃ h, r.result = .handle h
    | .get k _ => r.inv = r.lin ∧ ∃ s, r.result = useSnap k s
    | .free _ => r.inv = r.lin ∧ r.lin = r.res ∧ r.result = .unit

/-- what the shared state knows about the operation a thread is in the middle of: an allocated handle is
bounded by the counter, non-zero, was returned by no completed create, and is larger than every handle
returned before its allocation; a snapshot taken is in the log -/
def PendOK (c : Config) (t : Nat) : Pend → Prop
  | .idle => True
  | .creating _ h i => h ≤ c.counter ∧ h ≠ 0 ∧ i < c.now ∧
      ∀ a ∈ c.hist, ∀ ha, a.result = .handle ha → ha ≠ h ∧ (a.res < i → ha < h)
  | .snap k h s i => (⟨t, .get k h, i, useSnap k s⟩ : Lin) ∈ c.linLog

/-- in-flight handles of different threads are different -/
def Distinct (ths : List Thread) : Prop :=
  ∀ (t1 t2 : Nat) (th1 th2 : Thread) (o1 o2 : Obj) (h i1 i2 : Nat), ths[t1]? = some th1 → ths[t2]? = some th2 →
    th1.pend = .creating o1 h i1 → th2.pend = .creating o2 h i2 → t1 = t2

/-- the linearization log replays on the sequential spec and ends in the concrete map; every handle the spec has issued was
returned by a completed create -/
structure SpecInv (c : Config) : Prop where
  replay : ∃ s, specOf c.linLog = some s ∧ (∀ x, s.map x = mapGet c.map x) ∧
    (∀ x ∈ s.issued, x ∈ createdHandles c.hist)

/-- the invariant of the machine: the log is a linearization of the history (legal, ordered in time, holding
every completed operation inside its interval and nothing unaccounted for), and handles are allocated once,
in the order of the counter -/
structure Core (c : Config) : Prop extends SpecInv c where
  sorted : c.linLog.Pairwise (fun a b => b.lin < a.lin)
  lin_lt : ∀ l ∈ c.linLog, l.lin < c.now
  accounted : ∀ l ∈ c.linLog, Accounted c.threads c.hist l
  recs : ∀ r ∈ c.hist, RecOK c r
  /-- every key of the map was returned by a completed create -/
  keys_created : ∀ h ∈ keys c.map, h ∈ createdHandles c.hist
  keys_nodup : (keys c.map).Nodup
  /-- returned handles are bounded by the counter and non-zero (`ch_le`), never repeated (`ch_nodup`), and grow along real time (`ord`) -/
  ch_le : ∀ h ∈ createdHandles c.hist, h ≤ c.counter ∧ h ≠ 0
  ch_nodup : (createdHandles c.hist).Nodup
  ord : ∀ a ∈ c.hist, ∀ b ∈ c.hist, ∀ ha hb, a.result = .handle ha → b.result = .handle hb →
    a.res < b.inv → ha < hb
  pend : ∀ t th, c.threads[t]? = some th → PendOK c t th.pend
  distinct : Distinct c.threads

/-! the invariant is stable under growth of the shared state -/

theorem RecOK.mono {c c' : Config} {r : Rec} (h : RecOK c r) (hn : c.now ≤ c'.now)
    (hl : ∀ l ∈ c.linLog, l ∈ c'.linLog) : RecOK c' r :=
  ⟨hl _ h.in_log, ⟨h.times.1, h.times.2.1, Nat.lt_of_lt_of_le h.times.2.2 hn⟩, h.kind⟩

/-- a record added to the history does not disturb the pending operation `p` if it returned no handle or,
having just responded, a handle other than the one `p` holds -/
theorem PendOK.mono {c c' : Config} {t : Nat} {p : Pend} (h : PendOK c t p) (hc : c.counter ≤ c'.counter)
    (hn : c.now ≤ c'.now) (hl : ∀ l ∈ c.linLog, l ∈ c'.linLog)
    (hh : ∀ a ∈ c'.hist, a ∈ c.hist ∨ ∀ ha, a.result = .handle ha → c.now ≤ a.res ∧ ∀ o i, p ≠ .creating o ha i) :
    PendOK c' t p := by
  cases p with
  | idle => trivial
  | snap k x s i => exact hl _ h
  | creating o x i =>
    obtain ⟨h1, h2, h3, h4⟩ := h
    refine ⟨Nat.le_trans h1 hc, h2, Nat.lt_of_lt_of_le h3 hn, fun a ha y hy => ?_⟩
    rcases hh a ha with ha | hnew
    · exact h4 a ha y hy
    · obtain ⟨hr, hne⟩ := hnew y hy
      exact ⟨fun e => hne o i (e ▸ rfl), fun hlt => by omega⟩

/-- thread `t` moves to a state that is not `creating`, or to a handle nobody else holds -/
theorem Distinct.set {ths : List Thread} {t : Nat} {b : Thread} (d : Distinct ths)
    (hb : ∀ o x i, b.pend = .creating o x i → ∀ j y o' i', j ≠ t → ths[j]? = some y → y.pend ≠ .creating o' x i') :
    Distinct (ths.set t b) := by
  -- by cases on whether `t1`, then `t2`, is the thread that moved
  intro t1 t2 th1 th2 o1 o2 x i1 i2 h1 h2 p1 p2
  refine List.forall_getElem?_set (Φ := fun j y => ∀ o i, y.pend = .creating o x i → j = t2) ?_ ?_ t1 th1 h1 o1 i1 p1
  · intro o i p
    refine List.forall_getElem?_set (Φ := fun j y => ∀ o' i', y.pend = .creating o' x i' → t = j) ?_ ?_ t2 th2 h2 o2 i2 p2
    · exact fun _ _ _ => rfl
    · exact fun j y hj hy o' i' p' => absurd p' (hb o x i p j y o' i' hj hy)
  · intro j y hj hy o i p
    refine List.forall_getElem?_set (Φ := fun j' y' => ∀ o' i', y'.pend = .creating o' x i' → j = j') ?_ ?_ t2 th2 h2 o2 i2 p2
    · exact fun o' i' p' => absurd p (hb o' x i' p' j y o i hj hy)
    · exact fun j' y' _ hy' o' i' p' => d j j' y y' o o' x i i' hy hy' p p'

/-- an entry accounted for stays so when thread `t` moves on, if the entry of a snapshot that `t` held has its record
in the new history -/
theorem Accounted.keep {ths : List Thread} {hist hist' : List Rec} {t : Nat} {th th' : Thread} {l : Lin}
    (hl : Accounted ths hist l) (hth : ths[t]? = some th)
    (hnp : ∀ k h s j, th.pend = .snap k h s j → ∃ r ∈ hist', r.toLin = ⟨t, .get k h, j, useSnap k s⟩)
    (hsub : ∀ r ∈ hist, r ∈ hist') : Accounted (ths.set t th') hist' l := by
  rcases hl with ⟨r, hr, e⟩ | ⟨th0, k, h, s, h1, h2, h3⟩
  · exact .inl ⟨r, hsub r hr, e⟩
  · by_cases ht : l.thread = t
    · rw [ht, hth] at h1; cases h1; rw [ht] at h3; exact .inl (h3 ▸ hnp k h s l.lin h2)
    · exact .inr ⟨th0, k, h, s, by rw [List.getElem?_set_ne (fun e => ht e.symm)]; exact h1, h2, h3⟩


theorem createdHandles_cons_of_ne (r : Rec) (hist : List Rec) (h : ∀ x, r.result ≠ .handle x) :
    createdHandles (r :: hist) = createdHandles hist := by
  rw [createdHandles_cons]; split
  · next x hx => exact absurd hx (h x)
  · rfl

theorem initCfg_idle {progs : List (List Op)} {t : Nat} {th : Thread} (h : (initCfg progs).threads[t]? = some th) :
    th.pend = .idle := by
  simp only [initCfg, List.getElem?_map, Option.map_eq_some_iff] at h
  obtain ⟨p, _, rfl⟩ := h; rfl

theorem core_init (progs : List (List Op)) : Core (initCfg progs) where
  replay := ⟨Spec.empty, rfl, fun _ => rfl, fun _ h => (List.not_mem_nil h).elim⟩
  sorted := .nil
  lin_lt _ h := (List.not_mem_nil h).elim
  accounted _ h := (List.not_mem_nil h).elim
  recs _ h := (List.not_mem_nil h).elim
  keys_created _ h := (List.not_mem_nil h).elim
  keys_nodup := .nil
  ch_le _ h := (List.not_mem_nil h).elim
  ch_nodup := .nil
  ord _ h := (List.not_mem_nil h).elim
  pend t th hth := initCfg_idle hth ▸ trivial
  distinct t1 _ th1 _ _ _ _ _ _ h1 _ p1 _ := by rw [initCfg_idle h1] at p1; cases p1

theorem core_step (t : Nat) {c : Config} (i : Core c) : Core (step t c) := by
  have hlt' : ∀ l ∈ c.linLog, l.lin < c.now + 1 := fun l hl => Nat.lt_succ_of_lt (i.lin_lt l hl)
  obtain ⟨s, hs1, hs2, hs3⟩ := i.replay
  -- no such thread, or a finished one: only time passes
  have idle : Core { c with now := c.now + 1 } := { i with
    lin_lt := hlt'
    recs := fun r hr => (i.recs r hr).mono (Nat.le_succ _) (fun _ h => h)
    pend := fun t th hth =>
      (i.pend t th hth).mono (Nat.le_refl _) (Nat.le_succ _) (fun _ h => h) (fun _ h => .inl h) }
  unfold step
  split
  next => exact idle
  next th hth =>
    simp only [micro]
    split
    next o h j hp =>
      -- pending `creating o h j`, the locked insert: `t`'s handle `h` enters the map, the log and, the `create` being complete, the history
      obtain ⟨hle, hne0, hjlt, hfresh⟩ : PendOK c t (.creating o h j) := hp ▸ i.pend t th hth
      have hch : createdHandles (_ :: c.hist) = h :: createdHandles c.hist :=
        createdHandles_cons ⟨t, .create o, j, c.now, c.now, .handle h⟩ _
      have hnot : h ∉ createdHandles c.hist := fun hm => by
        obtain ⟨a, ha, hy⟩ := mem_createdHandles_iff.1 hm; exact (hfresh a ha h hy).1 rfl
      have hni : h ∉ s.issued := fun hm => hnot (hs3 h hm)
      exact {
        replay := ⟨⟨fun x => if x = h then some o else s.map x, h :: s.issued⟩,
          by simp [specOf, hs1, specStep, hne0, hni], fun x => by simp only [mapGet_insert, hs2],
          hch ▸ List.forall_mem_cons.2 ⟨List.mem_cons_self, fun x hx => List.mem_cons_of_mem _ (hs3 x hx)⟩⟩
        sorted := List.pairwise_cons.2 ⟨i.lin_lt, i.sorted⟩
        lin_lt := List.forall_mem_cons.2 ⟨Nat.lt_succ_self _, hlt'⟩
        accounted := List.forall_mem_cons.2 ⟨.inl ⟨_, List.mem_cons_self, rfl⟩,
          fun l hl => (i.accounted l hl).keep hth (fun _ _ _ _ e => nomatch hp.symm.trans e)
            (fun _ h => List.mem_cons_of_mem _ h)⟩
        recs := List.forall_mem_cons.2
          ⟨⟨List.mem_cons_self, ⟨Nat.le_of_lt hjlt, Nat.le_refl _, Nat.lt_succ_self _⟩, rfl, h, rfl⟩,
          fun r hr => (i.recs r hr).mono (Nat.le_succ _) (fun _ h => List.mem_cons_of_mem _ h)⟩
        keys_created := hch ▸ List.forall_mem_cons.2 ⟨List.mem_cons_self,
          fun x hx => List.mem_cons_of_mem _ (i.keys_created x ((mem_keys_remove _ _ _).1 hx).1)⟩
        keys_nodup := keys_insert_nodup _ _ _ i.keys_nodup
        ch_le := hch ▸ List.forall_mem_cons.2 ⟨⟨hle, hne0⟩, i.ch_le⟩
        ch_nodup := hch ▸ List.nodup_cons.2 ⟨hnot, i.ch_nodup⟩
        ord := by
          -- the new record against itself, before an old one, and after an old one
          refine List.forall_mem_cons.2 ⟨List.forall_mem_cons.2 ⟨fun _ _ _ _ hlt => ?_, fun b hb _ _ _ _ hlt => ?_⟩,
            fun a ha => List.forall_mem_cons.2 ⟨fun xa xb hxa hxb hlt => ?_, i.ord a ha⟩⟩
          · exact absurd hlt (by simp only; omega)
          · have := (i.recs b hb).times; exact absurd hlt (by simp only; omega)
          · cases hxb; exact (hfresh a ha xa hxa).2 hlt
        pend := by
          -- another thread's handle differs from `h`, and was allocated before this response
          refine List.forall_getElem?_set trivial fun j' x hj hx => (i.pend j' x hx).mono (Nat.le_refl _) (Nat.le_succ _)
            (fun _ h => List.mem_cons_of_mem _ h) (List.forall_mem_cons.2 ⟨.inr ?_, fun _ h => .inl h⟩)
          rintro _ ⟨⟩
          exact ⟨Nat.le_refl _, fun o' i' p' => hj (i.distinct j' t x th o' o h i' j hx hth p' hp)⟩
        distinct := i.distinct.set (by simp) }
    next k h s' j hp =>
      -- pending `snap k h s' j`, the snapshot is used: the `get` is complete and its log entry passes from `t` to the new record
      have hP : (⟨t, .get k h, j, useSnap k s'⟩ : Lin) ∈ c.linLog :=
        (hp ▸ i.pend t th hth : PendOK c t (.snap k h s' j))
      have hj := i.lin_lt _ hP
      have hch : createdHandles (_ :: c.hist) = createdHandles c.hist :=
        createdHandles_cons_of_ne ⟨t, .get k h, j, j, c.now, useSnap k s'⟩ _ (useSnap_ne_handle k s')
      exact { i with
        replay := ⟨s, hs1, hs2, hch ▸ hs3⟩
        lin_lt := hlt'
        accounted := fun l hl => (i.accounted l hl).keep hth
          (fun _ _ _ _ e => ⟨_, List.mem_cons_self, by cases hp.symm.trans e; rfl⟩)
          (fun _ h => List.mem_cons_of_mem _ h)
        recs := List.forall_mem_cons.2 ⟨⟨hP, ⟨Nat.le_refl _, Nat.le_of_lt hj, Nat.lt_succ_self _⟩, rfl, s', rfl⟩,
          fun r hr => (i.recs r hr).mono (Nat.le_succ _) (fun _ h => h)⟩
        keys_created := hch ▸ i.keys_created
        ch_le := hch ▸ i.ch_le
        ch_nodup := hch ▸ i.ch_nodup
        ord := List.forall_mem_cons.2 ⟨fun _ _ _ _ hxa => absurd hxa (useSnap_ne_handle _ _ _),
          fun a ha => List.forall_mem_cons.2 ⟨fun _ _ _ hxb => absurd hxb (useSnap_ne_handle _ _ _), i.ord a ha⟩⟩
        pend := List.forall_getElem?_set trivial fun j' x _ hx => (i.pend j' x hx).mono (Nat.le_refl _) (Nat.le_succ _)
          (fun _ h => h)
          (List.forall_mem_cons.2 ⟨.inr fun _ e => absurd e (useSnap_ne_handle _ _ _), fun _ h => .inl h⟩)
        distinct := i.distinct.set (by simp) }
    next hp =>
      split
      next =>
        -- idle with an empty program, a finished thread: only time passes
        obtain ⟨hlt, rfl⟩ := List.getElem?_eq_some_iff.mp hth
        rw [List.set_getElem_self]; exact idle
      next o rest _ =>
        -- idle before `create o`, `fetch_add`: the counter grows and `t` holds the new value, which is above every handle so far
        exact { i with
          lin_lt := hlt'
          accounted := fun l hl => (i.accounted l hl).keep hth (fun _ _ _ _ e => nomatch hp.symm.trans e) (fun _ h => h)
          recs := fun r hr => (i.recs r hr).mono (Nat.le_succ _) (fun _ h => h)
          ch_le := fun h hh => ⟨Nat.le_succ_of_le (i.ch_le h hh).1, (i.ch_le h hh).2⟩
          pend := by
            refine List.forall_getElem?_set ⟨Nat.le_refl _, Nat.succ_ne_zero _, Nat.lt_succ_self _, fun a ha y hy => ?_⟩
              (fun j x _ hx => (i.pend j x hx).mono (Nat.le_succ _) (Nat.le_succ _) (fun _ h => h) (fun _ h => .inl h))
            have := (i.ch_le y (mem_createdHandles_iff.2 ⟨a, ha, hy⟩)).1
            exact ⟨by omega, fun _ => by omega⟩
          distinct := by
            refine i.distinct.set fun o' x i' p j y o'' i'' _ hy p' => ?_
            cases p
            have := (p' ▸ i.pend j y hy : PendOK c j (.creating o'' _ i'')).1
            omega }
      next k h rest _ =>
        -- idle before `get k h`, the locked `get`: a log entry answered from the current map, owned by `t`'s pending snapshot
        exact { i with
          replay := ⟨s, by simp [specOf, hs1, specStep, hs2], hs2, hs3⟩
          sorted := List.pairwise_cons.2 ⟨i.lin_lt, i.sorted⟩
          lin_lt := List.forall_mem_cons.2 ⟨Nat.lt_succ_self _, hlt'⟩
          accounted := List.forall_mem_cons.2
            ⟨.inr ⟨_, k, h, _, List.getElem?_set_self (List.getElem?_lt hth), rfl, rfl⟩,
            fun l hl => (i.accounted l hl).keep hth (fun _ _ _ _ e => nomatch hp.symm.trans e) (fun _ h => h)⟩
          recs := fun r hr => (i.recs r hr).mono (Nat.le_succ _) (fun _ h => List.mem_cons_of_mem _ h)
          pend := List.forall_getElem?_set List.mem_cons_self fun j x _ hx => (i.pend j x hx).mono (Nat.le_refl _)
            (Nat.le_succ _) (fun _ h => List.mem_cons_of_mem _ h) (fun _ h => .inl h)
          distinct := i.distinct.set (by simp) }
      next h rest _ =>
        -- idle before `free h`, the locked remove: one step that is log entry and complete record at once
        have hch : createdHandles (_ :: c.hist) = createdHandles c.hist :=
          createdHandles_cons ⟨t, .free h, c.now, c.now, c.now, .unit⟩ _
        exact {
          replay := ⟨⟨fun x => if x = h then none else s.map x, s.issued⟩, by simp [specOf, hs1, specStep],
            fun x => by simp only [mapGet_remove, hs2], hch ▸ hs3⟩
          sorted := List.pairwise_cons.2 ⟨i.lin_lt, i.sorted⟩
          lin_lt := List.forall_mem_cons.2 ⟨Nat.lt_succ_self _, hlt'⟩
          accounted := List.forall_mem_cons.2 ⟨.inl ⟨_, List.mem_cons_self, rfl⟩,
            fun l hl => (i.accounted l hl).keep hth (fun _ _ _ _ e => nomatch hp.symm.trans e)
            (fun _ h => List.mem_cons_of_mem _ h)⟩
          recs := List.forall_mem_cons.2
            ⟨⟨List.mem_cons_self, ⟨Nat.le_refl _, Nat.le_refl _, Nat.lt_succ_self _⟩, rfl, rfl, rfl⟩,
            fun r hr => (i.recs r hr).mono (Nat.le_succ _) (fun _ h => List.mem_cons_of_mem _ h)⟩
          keys_created := fun x hx => hch ▸ i.keys_created x ((mem_keys_remove _ _ _).1 hx).1
          keys_nodup := keys_remove_nodup _ _ i.keys_nodup
          ch_le := hch ▸ i.ch_le
          ch_nodup := hch ▸ i.ch_nodup
          ord := List.forall_mem_cons.2 ⟨fun _ _ _ _ hxa => (by cases hxa),
            fun a ha => List.forall_mem_cons.2 ⟨fun _ _ _ hxb => (by cases hxb), i.ord a ha⟩⟩
          pend := List.forall_getElem?_set trivial fun j' x _ hx => (i.pend j' x hx).mono (Nat.le_refl _) (Nat.le_succ _)
            (fun _ h => List.mem_cons_of_mem _ h)
            (List.forall_mem_cons.2 ⟨.inr fun _ e => (by cases e), fun _ h => .inl h⟩)
          distinct := i.distinct.set (by simp) }

theorem core_run (progs : List (List Op)) (s : Sched) : Core (run s (initCfg progs)) := by
  generalize initCfg progs = c, core_init progs = h
  induction s generalizing c with
  | nil => exact h
  | cons t ts ih => exact ih _ (core_step t h)


theorem specStep_eq_some {s s' : Spec} {l : Lin} (h : specStep s l = some s') :
    (∃ o x, l.op = .create o ∧ l.result = .handle x ∧ x ≠ 0 ∧ x ∉ s.issued ∧
      s' = ⟨fun y => if y = x then some o else s.map y, x :: s.issued⟩) ∨
    (∃ k x, l.op = .get k x ∧ l.result = useSnap k (s.map x) ∧ s' = s) ∨
    (∃ x, l.op = .free x ∧ l.result = .unit ∧ s' = ⟨fun y => if y = x then none else s.map y, s.issued⟩) := by
  unfold specStep at h
  split at h
  · next o x ho hr =>
    split at h
    · next hx => exact .inl ⟨o, x, ho, hr, hx.1, hx.2, (Option.some.inj h).symm⟩
    · cases h
  · next k x ho =>
    split at h
    · next hx => exact .inr (.inl ⟨k, x, ho, hx, (Option.some.inj h).symm⟩)
    · cases h
  · next x ho hr => exact .inr (.inr ⟨x, ho, hr, (Option.some.inj h).symm⟩)
  · cases h


/-- life of one handle `h` in a sequential history `log` (most recent first) that ends in the partial map `m`:
`rc` is the entry that created it with object `o`; `q = none` while it has not been removed since,
`q = some Q` when the first remove after the insert happened at step `Q`. Every `get` of `h` was answered
from `o` (`useSnap k (some o)`: `o`, or a type error for a mistyped `useAs`) exactly inside `(rc.lin, Q)` and by `errInvalid`
outside. -/
structure Window (log : List Lin) (m : Nat → Option Obj) (rc : Lin) (o : Obj) (h : Nat) (q : Option Nat) : Prop where
  link : m h = match q with | none => some o | some _ => none
  qfree : ∀ Q, q = some Q → rc.lin < Q ∧ ∃ f ∈ log, f.op = .free h ∧ f.lin = Q
  frees : ∀ f ∈ log, f.op = .free h → f.lin < rc.lin ∨ ∃ Q, q = some Q ∧ Q ≤ f.lin
  gets : ∀ r ∈ log, ∀ k, r.op = .get k h →
    (r.result = useSnap k (some o) ∧ rc.lin < r.lin ∧ ∀ Q, q = some Q → r.lin < Q) ∨
    (r.result = .errInvalid ∧ (r.lin < rc.lin ∨ ∃ Q, q = some Q ∧ Q < r.lin))

theorem Window.cons {log : List Lin} {m m' : Nat → Option Obj} {rc : Lin} {o : Obj} {h : Nat} {q : Option Nat}
    (w : Window log m rc o h q) (l : Lin) (hm : m' h = m h)
    (hf : l.op = .free h → l.lin < rc.lin ∨ ∃ Q, q = some Q ∧ Q ≤ l.lin)
    (hg : ∀ k, l.op = .get k h →
      (l.result = useSnap k (some o) ∧ rc.lin < l.lin ∧ ∀ Q, q = some Q → l.lin < Q) ∨
      (l.result = .errInvalid ∧ (l.lin < rc.lin ∨ ∃ Q, q = some Q ∧ Q < l.lin))) :
    Window (l :: log) m' rc o h q where
  link := hm ▸ w.link
  qfree Q hQ := (w.qfree Q hQ).imp_right fun ⟨f, hf1, hf2⟩ => ⟨f, List.mem_cons_of_mem _ hf1, hf2⟩
  frees := List.forall_mem_cons.2 ⟨hf, w.frees⟩
  gets := List.forall_mem_cons.2 ⟨hg, w.gets⟩

theorem spec_windows {log : List Lin} (hs : log.Pairwise (fun a b => b.lin < a.lin)) {s : Spec}
    (hspec : specOf log = some s) :
    (∀ rc ∈ log, ∀ o h, rc.op = .create o → rc.result = .handle h →
      h ∈ s.issued ∧ ∃ q, Window log s.map rc o h q) ∧
    (∀ h, h ∉ s.issued → s.map h = none ∧ ∀ r ∈ log, ∀ k, r.op = .get k h → r.result = .errInvalid) := by
  induction log generalizing s with
  | nil => cases hspec; exact ⟨nofun, fun _ _ => ⟨rfl, nofun⟩⟩
  | cons l older ih =>
    obtain ⟨hl, hs'⟩ := List.pairwise_cons.mp hs
    obtain ⟨s0, h0, hstep⟩ := Option.bind_eq_some_iff.mp hspec
    obtain ⟨win, never⟩ := ih hs' h0
    rcases specStep_eq_some hstep with ⟨o', x, ho, hr, -, hxi, rfl⟩ | ⟨k', x, ho, hr, rfl⟩ | ⟨x, ho, hr, rfl⟩
    · -- `create o'` returning the fresh handle `x`
      refine ⟨List.forall_mem_cons.2 ⟨?_, ?_⟩, ?_⟩
      · intro o h hop hres
        rw [ho] at hop; rw [hr] at hres; cases hop; cases hres
        obtain ⟨-, hn⟩ := never x hxi
        refine ⟨List.mem_cons_self, none, by simp, nofun, ?_, ?_⟩
        · exact List.forall_mem_cons.2 ⟨fun hfo => by simp [ho] at hfo, fun f hf _ => .inl (hl f hf)⟩
        · exact List.forall_mem_cons.2 ⟨fun k hk => by simp [ho] at hk,
            fun r hr' k hk => .inr ⟨hn r hr' k hk, .inl (hl r hr')⟩⟩
      · intro rc hrc o h hop hres
        obtain ⟨hi, q, w⟩ := win rc hrc o h hop hres
        have hne : h ≠ x := fun e => hxi (e ▸ hi)
        exact ⟨List.mem_cons_of_mem _ hi, q, w.cons l (by simp [hne]) (by simp [ho]) (by simp [ho])⟩
      · intro h hh
        obtain ⟨hn1, hn2⟩ := never h (fun hm => hh (List.mem_cons_of_mem _ hm))
        have hne : h ≠ x := fun e => hh (e ▸ List.mem_cons_self)
        exact ⟨by simp [hne, hn1], List.forall_mem_cons.2 ⟨fun k hk => by simp [ho] at hk, hn2⟩⟩
    · -- `get k' x`, answered from the state before it: inside the window of `x` if `x` is still in the map
      refine ⟨List.forall_mem_cons.2 ⟨fun o h hop => by simp [ho] at hop, ?_⟩, ?_⟩
      · intro rc hrc o h hop hres
        obtain ⟨hi, q, w⟩ := win rc hrc o h hop hres
        refine ⟨hi, q, w.cons l rfl (by simp [ho]) fun k hk => ?_⟩
        rw [ho] at hk; cases hk
        rw [hr, w.link]
        cases q with
        | none => exact .inl ⟨rfl, hl rc hrc, nofun⟩
        | some Q =>
          obtain ⟨-, f, hf1, -, hf3⟩ := w.qfree Q rfl
          exact .inr ⟨rfl, .inr ⟨Q, rfl, hf3 ▸ hl f hf1⟩⟩
      · intro h hh
        obtain ⟨hn1, hn2⟩ := never h hh
        refine ⟨hn1, List.forall_mem_cons.2 ⟨fun k hk => ?_, hn2⟩⟩
        rw [ho] at hk; cases hk
        rw [hr, hn1]; rfl
    · -- `free x`
      refine ⟨List.forall_mem_cons.2 ⟨fun o h hop => by simp [ho] at hop, ?_⟩, ?_⟩
      · intro rc hrc o h hop hres
        obtain ⟨hi, q, w⟩ := win rc hrc o h hop hres
        refine ⟨hi, ?_⟩
        by_cases hne : h = x
        · subst hne
          cases q with
          | none =>
            -- this is the first remove after the insert
            refine ⟨some l.lin, by simp, ?_, List.forall_mem_cons.2 ⟨fun _ => .inr ⟨_, rfl, Nat.le_refl _⟩, ?_⟩,
              List.forall_mem_cons.2 ⟨fun k hk => by simp [ho] at hk, ?_⟩⟩
            · rintro Q ⟨⟩; exact ⟨hl rc hrc, l, List.mem_cons_self, ho, rfl⟩
            · exact fun f hf hfo => (w.frees f hf hfo).imp_right fun ⟨Q, hQ, _⟩ => nomatch hQ
            · intro r hr' k hk
              rcases w.gets r hr' k hk with ⟨a, b, _⟩ | ⟨a, b | ⟨Q, hQ, _⟩⟩
              · exact .inl ⟨a, b, by rintro Q ⟨⟩; exact hl r hr'⟩
              · exact .inr ⟨a, .inl b⟩
              · cases hQ
          | some Q =>
            obtain ⟨-, f0, hf1, -, hf3⟩ := w.qfree Q rfl
            exact ⟨some Q, w.cons l (by simp [w.link]) (fun _ => .inr ⟨Q, rfl, Nat.le_of_lt (hf3 ▸ hl f0 hf1)⟩)
              (by simp [ho])⟩
        · exact ⟨q, w.cons l (by simp [hne]) (fun e => absurd (Op.free.inj (ho ▸ e)).symm hne) (by simp [ho])⟩
      · intro h hh
        obtain ⟨hn1, hn2⟩ := never h hh
        exact ⟨by simp [hn1], List.forall_mem_cons.2 ⟨fun k hk => by simp [ho] at hk, hn2⟩⟩


/-! ### what the invariant says, by topic

`Timing` and `Shape` are what `C18_linearizable` and the checker proof read off; their entries about the log
follow from every log entry being accounted for. -/

/-- timing and bookkeeping invariant: how `linLog`, `hist` and the pending states relate -/
structure Timing (c : Config) : Prop where
  lin_lt : ∀ l ∈ c.linLog, l.lin < c.now
  hist_times : ∀ r ∈ c.hist, r.inv ≤ r.lin ∧ r.lin ≤ r.res ∧ r.res < c.now
  hist_in_log : ∀ r ∈ c.hist, r.toLin ∈ c.linLog
  pend_snap : ∀ (t : Nat) (th : Thread) (k : GetKind) (h : Nat) (s : Option Obj) (i : Nat),
    c.threads[t]? = some th → th.pend = .snap k h s i → (⟨t, .get k h, i, useSnap k s⟩ : Lin) ∈ c.linLog
  pend_creating : ∀ (t : Nat) (th : Thread) (o : Obj) (h i : Nat),
    c.threads[t]? = some th → th.pend = .creating o h i → i < c.now
  sorted : c.linLog.Pairwise (fun a b => b.lin < a.lin)
  log_created : ∀ l ∈ c.linLog, ∀ o, l.op = .create o → ∃ h, l.result = .handle h ∧ h ∈ createdHandles c.hist
  log_handle : ∀ l ∈ c.linLog, ∀ h, l.result = .handle h → ∃ o, l.op = .create o


/-- which combinations of operation, times and response a history contains -/
structure Shape (c : Config) : Prop where
  create : ∀ r ∈ c.hist, ∀ o, r.op = .create o → r.lin = r.res ∧ ∃ h, r.result = .handle h
  get : ∀ r ∈ c.hist, ∀ k h, r.op = .get k h → r.inv = r.lin ∧ ∃ s, r.result = useSnap k s
  free : ∀ r ∈ c.hist, ∀ h, r.op = .free h → r.inv = r.lin ∧ r.lin = r.res ∧ r.result = .unit
  log_free : ∀ l ∈ c.linLog, ∀ h, l.op = .free h →
    (⟨l.thread, .free h, l.lin, l.lin, l.lin, .unit⟩ : Rec) ∈ c.hist


theorem Core.inflight {c : Config} (a : Core c) {t : Nat} {th : Thread} {o : Obj} {h i : Nat}
    (hth : c.threads[t]? = some th) (hp : th.pend = .creating o h i) :
    h ≤ c.counter ∧ h ≠ 0 ∧ h ∉ createdHandles c.hist := by
  obtain ⟨h1, h2, _, h3⟩ : PendOK c t (.creating o h i) := hp ▸ a.pend t th hth
  refine ⟨h1, h2, fun hm => ?_⟩
  obtain ⟨r, hr, hres⟩ := mem_createdHandles_iff.1 hm
  exact (h3 r hr h hres).1 rfl

theorem Core.rec_of_log {c : Config} (a : Core c) {l : Lin} (hl : l ∈ c.linLog) (hg : ∀ k h, l.op ≠ .get k h) :
    ∃ r ∈ c.hist, r.toLin = l := by
  rcases a.accounted l hl with h | ⟨_, k, h, _, _, _, e⟩
  · exact h
  · exact absurd (by rw [e]) (hg k h)

theorem Core.shape {c : Config} (a : Core c) : Shape c where
  create r hr o ho := by have := (a.recs r hr).kind; rwa [ho] at this
  get r hr k h ho := by have := (a.recs r hr).kind; rwa [ho] at this
  free r hr h ho := by have := (a.recs r hr).kind; rwa [ho] at this
  log_free l hl h ho := by
    obtain ⟨r, hr, rfl⟩ := a.rec_of_log hl (by simp [ho])
    have := (a.recs r hr).kind
    rw [show r.op = .free h from ho] at this
    obtain ⟨h1, h2, h3⟩ := this
    obtain ⟨t, op, i, l, e, res⟩ := r
    cases (ho : op = _); cases h1; cases h2; cases (h3 : res = _)
    exact hr

theorem Core.timing {c : Config} (a : Core c) : Timing c where
  lin_lt := a.lin_lt
  hist_times r hr := (a.recs r hr).times
  hist_in_log r hr := (a.recs r hr).in_log
  pend_snap t th k h s i hth hp := (hp ▸ a.pend t th hth : PendOK c t (.snap k h s i))
  pend_creating t th o h i hth hp := (hp ▸ a.pend t th hth : PendOK c t (.creating o h i)).2.2.1
  sorted := a.sorted
  log_created l hl o ho := by
    obtain ⟨r, hr, rfl⟩ := a.rec_of_log hl (by simp [ho])
    obtain ⟨_, h, hres⟩ := a.shape.create r hr o ho
    exact ⟨h, hres, mem_createdHandles_iff.2 ⟨r, hr, hres⟩⟩
  log_handle l hl h hres := by
    rcases a.accounted l hl with ⟨r, hr, rfl⟩ | ⟨_, _, _, _, _, _, e⟩
    · cases hop : r.op with
      | create o => exact ⟨o, hop⟩
      | get k x =>
        obtain ⟨_, s, hs⟩ := a.shape.get r hr k x hop
        exact absurd (hs ▸ (hres : r.result = _)) (useSnap_ne_handle k s h)
      | free x => exact nomatch (a.shape.free r hr x hop).2.2.symm.trans (hres : r.result = _)
    · exact absurd (e ▸ hres : useSnap _ _ = _) (useSnap_ne_handle _ _ h)


/-- the window of a created handle, read on the completed operations: `Window` without the link to the map,
with the history in place of the log -/
structure HistWindow (hist : List Rec) (rc : Rec) (o : Obj) (h : Nat) (q : Option Nat) : Prop where
  qfree : ∀ Q, q = some Q → rc.lin < Q ∧ ∃ f ∈ hist, f.op = .free h ∧ f.lin = Q
  frees : ∀ f ∈ hist, f.op = .free h → f.lin < rc.lin ∨ ∃ Q, q = some Q ∧ Q ≤ f.lin
  gets : ∀ r ∈ hist, ∀ k, r.op = .get k h →
    (r.result = useSnap k (some o) ∧ rc.lin < r.lin ∧ ∀ Q, q = some Q → r.lin < Q) ∨
    (r.result = .errInvalid ∧ (r.lin < rc.lin ∨ ∃ Q, q = some Q ∧ Q < r.lin))

/-- what the log's being a legal sequential history says about the completed operations -/
structure WinInv (c : Config) : Prop where
  win : ∀ rc ∈ c.hist, ∀ o h, rc.op = .create o → rc.result = .handle h → ∃ q, HistWindow c.hist rc o h q
  never : ∀ h, h ∉ createdHandles c.hist → ∀ r ∈ c.hist, ∀ k, r.op = .get k h → r.result = .errInvalid

theorem Core.win {c : Config} (a : Core c) : WinInv c := by
  obtain ⟨s, h1, _, h3⟩ := a.replay
  obtain ⟨win, never⟩ := spec_windows a.sorted h1
  -- every completed operation is in the log, so what the log says of a handle holds of the history; the first remove
  -- is in the history because a `free` completes in its locked step
  have inlog := a.timing.hist_in_log
  refine ⟨fun rc hrc o h ho hr => ?_, fun h hh r hr => (never h (fun hi => hh (h3 h hi))).2 r.toLin (inlog r hr)⟩
  obtain ⟨_, q, w⟩ := win rc.toLin (inlog rc hrc) o h ho hr
  refine ⟨q, fun Q hQ => ?_, fun f hf => w.frees f.toLin (inlog f hf), fun r hr => w.gets r.toLin (inlog r hr)⟩
  obtain ⟨hlt, f, hf, hop, hl⟩ := w.qfree Q hQ
  exact ⟨hlt, _, a.shape.log_free f hf h hop, rfl, hl⟩

theorem toEvent_inv {r : Rec} {e : Event} (h : r.toEvent = some e) :
    e.inv = 2 * r.inv ∧ e.res = 2 * r.res + 1 ∧
    (e.op = .create → ∃ o, r.op = .create o ∧ r.result = .handle e.handle ∧ e.ty = some o.ty ∧
        e.obj = some o.id ∧ e.result = .ok) ∧
    (e.op = .free → r.op = .free e.handle ∧ r.result = .unit ∧ e.result = .ok) ∧
    (e.isGet = true → ∃ k, r.op = .get k e.handle ∧ (e.result = .invalid ↔ r.result = .errInvalid)) := by
  unfold Rec.toEvent at h
  split at h <;> simp only [Option.some.injEq, reduceCtorEq] at h <;> subst h <;> simp [Event.isGet, *]

theorem presentOk_toEvent {r : Rec} {e C : Event} {k : GetKind} {h : Nat} {o : Obj} (he : r.toEvent = some e)
    (ho : r.op = .get k h) (hr : r.result = useSnap k (some o)) (hty : C.ty = some o.ty) (hobj : C.obj = some o.id) :
    presentOk C e = true := by
  cases k with
  | useAs T =>
    by_cases hT : o.ty = T <;> simp [Rec.toEvent, ho, hr, useSnap, hT] at he <;> subst he <;> simp [presentOk, hty, hT]
  | _ => simp [Rec.toEvent, ho, hr, useSnap] at he; subst he; simp [presentOk, hty, hobj]

theorem toEvent_create {r : Rec} {o : Obj} {h : Nat} (ho : r.op = .create o) (hr : r.result = .handle h) :
    r.toEvent = some ⟨r.thread, .create, h, none, 2 * r.inv, 2 * r.res + 1, .ok, some o.ty, some o.id⟩ := by
  simp [Rec.toEvent, ho, hr]

theorem toEvent_free {r : Rec} {h : Nat} (ho : r.op = .free h) (hr : r.result = .unit) :
    r.toEvent = some ⟨r.thread, .free, h, none, 2 * r.inv, 2 * r.res + 1, .ok, none, none⟩ := by
  simp [Rec.toEvent, ho, hr]

theorem toEvent_get_isSome {r : Rec} {k : GetKind} {h : Nat} {s : Option Obj} (ho : r.op = .get k h)
    (hr : r.result = useSnap k s) : r.toEvent.isSome = true := by
  cases k with
  | useAs T =>
    cases s with
    | none => simp [Rec.toEvent, ho, hr, useSnap]
    | some o => by_cases hT : o.ty = T <;> simp [Rec.toEvent, ho, hr, useSnap, hT]
  | _ => cases s <;> simp [Rec.toEvent, ho, hr, useSnap]

theorem mem_toEvents {hist : List Rec} {e : Event} : e ∈ toEvents hist ↔ ∃ r ∈ hist, r.toEvent = some e := by
  simp [toEvents, List.mem_filterMap]

theorem creates_handles (hist : List Rec)
    (hc : ∀ r ∈ hist, ∀ h, r.result = .handle h → ∃ o, r.op = .create o) :
    ((toEvents hist).filter (fun e => e.op == .create)).map (·.handle) = createdHandles hist := by
  unfold toEvents createdHandles
  rw [List.filter_filterMap, List.map_filterMap]
  refine List.filterMap_congr fun r hr => ?_
  split
  · next h hres => obtain ⟨o, ho⟩ := hc r hr h hres; rw [toEvent_create ho hres]; rfl
  · next hres =>
    cases he : r.toEvent with
    | none => rfl
    | some e =>
      have : e.op ≠ .create := fun hop => by
        obtain ⟨o, -, h', -⟩ := (toEvent_inv he).2.2.1 hop; exact hres _ h'
      simp [this]


/-- per-handle facts about the events of a model history, in ticket arithmetic -/
structure HandleFacts (E : List Event) (C : Event) (h p : Nat) (q : Option Nat) : Prop where
  get : ∀ g ∈ E, g.isGet = true → g.handle = h →
    (g.result ≠ .invalid ∧ presentOk C g = true ∧ p < g.res ∧ ∀ Q, q = some Q → g.inv ≤ Q) ∨
    (g.result = .invalid ∧ (g.inv ≤ p ∨ ∃ Q, q = some Q ∧ Q < g.res))
  free : ∀ f ∈ E, f.op = .free → f.handle = h → f.inv ≤ p ∨ ∃ Q, q = some Q ∧ Q < f.res
  q : ∀ Q, q = some Q → p ≤ Q ∧ ∃ f ∈ E, f.op = .free ∧ f.handle = h ∧ f.inv = Q ∧ Q < f.res

theorem handleFacts {c : Config} (a : Core c) {rc : Rec} (hrc : rc ∈ c.hist) {o : Obj} {h : Nat}
    (ho : rc.op = .create o) (hres : rc.result = .handle h) (C : Event)
    (hty : C.ty = some o.ty) (hobj : C.obj = some o.id) :
    ∃ q, HandleFacts (toEvents c.hist) C h (2 * rc.lin) q := by
  obtain ⟨q, w⟩ := a.win.win rc hrc o h ho hres
  -- events carry the checker's doubled clock (`inv = 2 * r.inv`, `res = 2 * r.res + 1`), so the window `(rc.lin, Q)` of the
  -- records is `(2 * rc.lin, 2 * Q)` there
  refine ⟨q.map (2 * ·), ?_, ?_, ?_⟩
  · intro g hg hget hh
    obtain ⟨r, hr, hre⟩ := mem_toEvents.mp hg
    obtain ⟨t1, t2, -, -, hk⟩ := toEvent_inv hre
    obtain ⟨k, hop, hinv⟩ := hk hget
    have ht := a.timing.hist_times r hr
    rcases w.gets r hr k (hh ▸ hop) with ⟨w1, w2, w3⟩ | ⟨w1, w2⟩
    · refine .inl ⟨fun e => useSnap_some_ne_invalid k o (w1 ▸ hinv.1 e), presentOk_toEvent hre hop w1 hty hobj,
        by omega, fun Q hQ => ?_⟩
      obtain ⟨Q', rfl, rfl⟩ := Option.map_eq_some_iff.mp hQ
      have := w3 Q' rfl; omega
    · refine .inr ⟨hinv.2 w1, ?_⟩
      rcases w2 with w2 | ⟨Q, rfl, w2⟩
      · exact .inl (by omega)
      · exact .inr ⟨2 * Q, rfl, by omega⟩
  · intro f hf hfop hh
    obtain ⟨r, hr, hre⟩ := mem_toEvents.mp hf
    obtain ⟨t1, t2, -, hfr, -⟩ := toEvent_inv hre
    have ht := a.timing.hist_times r hr
    rcases w.frees r hr (hh ▸ (hfr hfop).1) with w1 | ⟨Q, rfl, w1⟩
    · exact .inl (by omega)
    · exact .inr ⟨2 * Q, rfl, by omega⟩
  · intro Q hQ
    obtain ⟨Q', rfl, rfl⟩ := Option.map_eq_some_iff.mp hQ
    obtain ⟨q1, f, hf1, hf2, hf3⟩ := w.qfree Q' rfl
    have := (a.shape.free f hf1 h hf2)
    exact ⟨by omega, _, mem_toEvents.mpr ⟨f, hf1, toEvent_free hf2 this.2.2⟩, rfl, rfl,
      by simp only; omega, by simp only; omega⟩

theorem checkHandle_of_facts {E : List Event} {C : Event} {q : Option Nat} (hC : C.inv < C.res)
    (hf : HandleFacts E C C.handle (C.res - 1) q) : checkHandle C E = true := by
  -- the checker tries candidate points for the create; the first, just before its response, is the one the facts are about
  unfold checkHandle
  simp only [List.any_cons, Bool.or_eq_true]
  left
  have hCp : C.inv ≤ C.res - 1 ∧ C.res - 1 < C.res := ⟨Nat.le_sub_one_of_lt hC, Nat.sub_one_lt_of_lt hC⟩
  -- the part of `feasible` about gets that does not depend on `q`
  have hp : ∀ g ∈ E, g.isGet = true → g.handle = C.handle →
      g.result = .invalid ∨ presentOk C g = true ∧ C.res - 1 < g.res := fun g hg hget hh =>
    (hf.get g hg hget hh).elim (fun ⟨_, g2, g3, _⟩ => .inr ⟨g2, g3⟩) (fun ⟨g1, _⟩ => .inl g1)
  cases q with
  | none =>
    left
    simp only [feasible, Bool.and_eq_true, decide_eq_true_eq, List.all_eq_true, List.mem_filter,
      Bool.or_eq_true, beq_iff_eq, bne_iff_ne, ne_eq, and_imp]
    refine ⟨⟨hCp, hp⟩, ?_, ?_⟩
    · intro f hfm hop hh
      rcases hf.free f hfm hop hh with h1 | ⟨Q, hQ, _⟩
      · exact h1
      · cases hQ
    · intro g hg hget hh
      rcases hf.get g hg hget hh with ⟨g1, _⟩ | ⟨g1, g2 | ⟨Q, hQ, _⟩⟩
      · exact Or.inl g1
      · exact Or.inr g2
      · cases hQ
  | some Q =>
    right
    obtain ⟨q1, f0, hf0, hf1, hf2, hf3, hf4⟩ := hf.q Q rfl
    simp only [List.any_eq_true, List.mem_map, List.mem_cons, List.mem_append, List.mem_filter,
      Bool.and_eq_true, beq_iff_eq]
    refine ⟨Q, ⟨f0, Or.inl (Or.inr ⟨hf0, hf1, hf2⟩), hf3⟩, ?_⟩
    simp only [feasible, Bool.and_eq_true, decide_eq_true_eq, List.all_eq_true, List.any_eq_true,
      List.mem_filter, Bool.or_eq_true, beq_iff_eq, and_imp]
    refine ⟨⟨hCp, hp⟩, ⟨⟨q1, f0, ⟨hf0, hf1, hf2⟩, Nat.le_of_eq hf3, hf4⟩, ?_⟩, ?_⟩
    · intro f hfm hop hh
      rcases hf.free f hfm hop hh with h1 | ⟨Q', hQ, h2⟩
      · exact Or.inl h1
      · cases hQ; exact Or.inr h2
    · intro g hg hget hh
      rcases hf.get g hg hget hh with ⟨g1, _, _, g4⟩ | ⟨g1, g2 | ⟨Q', hQ, g2⟩⟩
      · rw [if_neg (by simpa using g1)]; simpa using g4 Q rfl
      · rw [if_pos (by simpa using g1)]; simp [g2]
      · cases hQ; rw [if_pos (by simpa using g1)]; simp [g2]

theorem hist_handle_is_create {c : Config} (a : Core c) {r : Rec} (hr : r ∈ c.hist) {h : Nat}
    (hres : r.result = .handle h) : ∃ o, r.op = .create o :=
  a.timing.log_handle r.toLin (a.timing.hist_in_log r hr) h hres

theorem create_event_inv {c : Config} (a : Core c) {e : Event} (he : e ∈ toEvents c.hist)
    (hop : e.op = .create) :
    ∃ r ∈ c.hist, ∃ o, r.op = .create o ∧ r.result = .handle e.handle ∧ e.ty = some o.ty ∧
      e.obj = some o.id ∧ e.result = .ok ∧ e.inv = 2 * r.inv ∧ e.res = 2 * r.res + 1 ∧ r.lin = r.res ∧
      r.inv ≤ r.res := by
  obtain ⟨r, hr, hre⟩ := mem_toEvents.mp he
  obtain ⟨t1, t2, hc, -, -⟩ := toEvent_inv hre
  obtain ⟨o, ho, h1, h2, h3, h4⟩ := hc hop
  have ht := a.timing.hist_times r hr
  exact ⟨r, hr, o, ho, h1, h2, h3, h4, t1, t2, (a.shape.create r hr o ho).1, by omega⟩

theorem checkHistory_sound {c : Config} (a : Core c) : checkHistory (toEvents c.hist) = true := by
  unfold checkHistory
  simp only [Bool.and_eq_true, List.all_eq_true, List.mem_filter, beq_iff_eq, decide_eq_true_eq,
    and_imp, Bool.or_eq_true, Bool.not_eq_true', decide_eq_false_iff_not, bne_iff_ne, ne_eq,
    List.any_eq_true]
  refine ⟨⟨⟨⟨⟨⟨?_, ?_⟩, ?_⟩, ?_⟩, ?_⟩, ?_⟩, ?_⟩
  · -- tickets
    intro e he
    obtain ⟨r, hr, hre⟩ := mem_toEvents.mp he
    obtain ⟨t1, t2, _⟩ := toEvent_inv hre
    have := a.timing.hist_times r hr; omega
  · -- creates are well-formed
    intro e he hop
    obtain ⟨r, hr, o, ho, h1, h2, h3, h4, _⟩ := create_event_inv a he hop
    have := (a.ch_le _ (mem_createdHandles_iff.2 ⟨_, hr, h1⟩)).2
    simp [h2, h3, h4, this]
  · -- no handle twice
    rw [nodupB_iff, creates_handles c.hist (fun r hr h hres => hist_handle_is_create a hr hres)]
    exact a.ch_nodup
  · -- handle order
    intro ea hea hopa eb heb hopb
    obtain ⟨ra, hra, oa, _, ha1, _, _, _, _, ta2, _, _⟩ := create_event_inv a hea hopa
    obtain ⟨rb, hrb, ob, _, hb1, _, _, _, tb1, _, _, _⟩ := create_event_inv a heb hopb
    by_cases hlt : ea.res < eb.inv
    · right; exact a.ord ra hra rb hrb _ _ ha1 hb1 (by omega)
    · left; exact hlt
  · -- free never fails
    intro e he
    obtain ⟨r, hr, hre⟩ := mem_toEvents.mp he
    by_cases hop : e.op = .free
    · exact .inr ((toEvent_inv hre).2.2.2.1 hop).2.2
    · exact .inl hop
  · -- handles never created
    intro e he
    by_cases hget : e.isGet = true
    · by_cases hcr : e.handle ∈ createdHandles c.hist
      · left; right
        obtain ⟨rc, hrc, hx⟩ := mem_createdHandles_iff.1 hcr
        obtain ⟨o, ho⟩ := hist_handle_is_create a hrc hx
        exact ⟨_, ⟨mem_toEvents.mpr ⟨rc, hrc, toEvent_create ho hx⟩, rfl⟩, rfl⟩
      · right
        obtain ⟨r, hr, hre⟩ := mem_toEvents.mp he
        obtain ⟨k, hop, hinv⟩ := (toEvent_inv hre).2.2.2.2 hget
        exact hinv.2 (a.win.never e.handle hcr r hr k hop)
    · left; left; simpa using hget
  · -- per handle
    intro C hC hop
    obtain ⟨r, hr, o, ho, h1, h2, h3, _, t1, t2, hl, hle⟩ := create_event_inv a hC hop
    obtain ⟨q, hf⟩ := handleFacts a hr ho h1 C h2 h3
    -- a create has `lin = res`, so on the doubled clock its window opens at `C.res - 1 = 2 * r.lin`
    have hp : C.res - 1 = 2 * r.lin := by omega
    exact checkHandle_of_facts (by omega) (hp ▸ hf)


theorem toEvent_isSome {c : Config} (a : Core c) {r : Rec} (hr : r ∈ c.hist) : r.toEvent.isSome = true := by
  cases hop : r.op with
  | create o =>
    obtain ⟨_, h, hres⟩ := a.shape.create r hr o hop
    rw [toEvent_create hop hres]; rfl
  | get k h =>
    obtain ⟨_, s, hres⟩ := a.shape.get r hr k h hop
    exact toEvent_get_isSome hop hres
  | free h =>
    obtain ⟨_, _, hres⟩ := a.shape.free r hr h hop
    rw [toEvent_free hop hres]; rfl

end AnonModel.Store

