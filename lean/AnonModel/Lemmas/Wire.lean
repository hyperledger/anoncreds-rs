import AnonModel.Model.Wire
import AnonModel.Lemmas.Encode
/-!
The hand-written readers of `Model/Wire.lean`: what the nonce reader accepts as a string, what it
prints and the value of its byte-array form; the documents an attribute value is read from.
-/

-- `Flows`: the namespace of the notions that the statements of C14 and C15 share (`beVal` here, `encEntry` in `Lemmas/Convert`)
namespace AnonModel.Flows

/-- positional big-endian value: the first byte is the most significant -/
def beVal : List Nat → Nat
  | [] => 0
  | b :: bs => b * 256 ^ bs.length + beVal bs

theorem foldl_be (bs : List Nat) (acc : Nat) :
    bs.foldl (fun a b => a * 256 + b) acc = acc * 256 ^ bs.length + beVal bs := by
  induction bs generalizing acc with
  | nil => simp [beVal]
  | cons b bs ih =>
    simp only [List.foldl_cons, ih, beVal, List.length_cons, Nat.pow_succ, Nat.add_mul]
    have : acc * 256 * 256 ^ bs.length = acc * (256 ^ bs.length * 256) := by
      rw [Nat.mul_assoc, Nat.mul_comm 256]
    omega

theorem foldl_be_zero (bs : List Nat) : bs.foldl (fun a b => a * 256 + b) 0 = beVal bs := by
  simpa using foldl_be bs 0

end AnonModel.Flows

namespace AnonModel.Wire
open AnonModel.Encode

theorem nonceFromDec_eq_some_iff (s t : String) :
    nonceFromDec s = some t ↔ t = s ∧ s ≠ "" ∧ ∀ c ∈ s.toList, c.isDigit = true := by
  simp only [nonceFromDec, Option.ite_none_left_eq_some, Option.ite_none_right_eq_some, Option.some.injEq,
    String.isEmpty_iff, List.all_eq_true, eq_comm (a := s), ne_eq]
  exact ⟨fun ⟨a, b, c⟩ => ⟨c, a, b⟩, fun ⟨a, b, c⟩ => ⟨b, c, a⟩⟩

theorem nonceDe_digits {j : WJson} {s : String} (h : nonceDe j = some s) :
    s ≠ "" ∧ ∀ c ∈ s.toList, c.isDigit = true := by
  have repr : ∀ m : Nat, Nat.repr m ≠ "" ∧ ∀ c ∈ (Nat.repr m).toList, c.isDigit = true := fun m =>
    ⟨Nat.repr_ne_empty, allDigits_iff.mp (repr_toList_allDigits m)⟩
  cases j with
  | str s => obtain ⟨rfl, h⟩ := (nonceFromDec_eq_some_iff _ _).mp h; exact h
  | num k => cases k <;> cases h; exact repr _
  | arr xs => obtain ⟨bs, _, rfl⟩ := Option.map_eq_some_iff.mp h; exact repr _
  | _ => cases h

theorem nonceBytes_pos_append (ns : List Nat) (rest : List WJson) :
    nonceBytes (ns.map (fun n => WJson.num (.pos n)) ++ rest) =
      (nonceBytes rest).map (ns.map (· % 256) ++ ·) := by
  induction ns with
  | nil => simp
  | cons n ns ih => simp [nonceBytes, ih, Function.comp_def]

theorem attrValDe_eq_some_iff (j : WJson) (v : AttrVal) :
    attrValDe j = some v ↔
      (∃ s, j = .str s ∧ v = .str s) ∨ (∃ b, j = .bool b ∧ v = .bool b) ∨
      (∃ n : Nat, j = .num (.pos n) ∧ (n : Int) ≤ i32Max ∧ v = .num n) ∨
      (∃ n : Int, j = .num (.neg n) ∧ i32Min ≤ n ∧ v = .num n) := by
  cases j with
  | num k => cases k <;> simp [attrValDe, eq_comm]
  | _ => simp [attrValDe, eq_comm]

end AnonModel.Wire
