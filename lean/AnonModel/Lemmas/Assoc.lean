import AnonModel.Lemmas.List
/-! Lists of pairs read as maps: first-match `lookup` against membership and the keys `l.map Prod.fst`, with and without
duplicate keys; `find?` by a test on the key; `filter`-then-`cons` as removal and insertion. -/
namespace List
variable {α β : Type} {l : List (α × β)} {k : α} {v : β}

theorem mem_keys : k ∈ l.map Prod.fst ↔ ∃ v, (k, v) ∈ l := by simp

variable [BEq α] [LawfulBEq α]

theorem mem_of_lookup (h : l.lookup k = some v) : (k, v) ∈ l := by
  obtain ⟨l₁, l₂, rfl, -⟩ := lookup_eq_some_iff.mp h
  exact mem_append_right _ mem_cons_self

theorem mem_keys_of_lookup (h : l.lookup k = some v) : k ∈ l.map Prod.fst :=
  mem_keys.mpr ⟨v, mem_of_lookup h⟩

theorem lookup_eq_none_iff_not_mem_keys : l.lookup k = none ↔ k ∉ l.map Prod.fst := by
  rw [lookup_eq_none_iff, mem_keys]
  exact ⟨fun h ⟨v, hv⟩ => absurd rfl (bne_iff_ne.mp (h _ hv)),
    fun h p hp => bne_iff_ne.mpr fun hk => h ⟨p.2, hk ▸ hp⟩⟩

theorem lookup_of_mem_keys (h : k ∈ l.map Prod.fst) : ∃ v, l.lookup k = some v :=
  Option.isSome_iff_exists.mp
    (Option.isSome_iff_ne_none.mpr fun hn => lookup_eq_none_iff_not_mem_keys.mp hn h)

theorem lookup_of_mem_of_unique (h : (k, v) ∈ l) (hu : ∀ v', (k, v') ∈ l → v' = v) :
    l.lookup k = some v := by
  obtain ⟨v', hv'⟩ := lookup_of_mem_keys (mem_map_of_mem h)
  rw [hv', hu v' (mem_of_lookup hv')]

theorem lookup_of_mem_nodup (hnd : (l.map Prod.fst).Nodup) (h : (k, v) ∈ l) : l.lookup k = some v :=
  lookup_of_mem_of_unique h fun _ h' =>
    congrArg Prod.snd ((pairwise_map.mp hnd).eq_of_mem h' h (fun e => e rfl) (fun e => e rfl))

theorem find?_fst_eq_lookup {p : α → Bool} (h : ∀ kv ∈ l, p kv.1 = (k == kv.1)) :
    l.find? (fun kv => p kv.1) = (l.lookup k).map (fun v => (k, v)) := by
  induction l with
  | nil => rfl
  | cons x l ih =>
    obtain ⟨k', v⟩ := x
    simp only [find?, lookup, h (k', v) mem_cons_self]
    cases e : k == k'
    · exact ih fun kv hkv => h kv (mem_cons_of_mem _ hkv)
    · rw [eq_of_beq e]; rfl

variable [DecidableEq α]

theorem lookup_filter_key_ne (l : List (α × β)) (k x : α) :
    (l.filter (fun e => !(e.1 == k))).lookup x = if x = k then none else l.lookup x := by
  induction l with
  | nil => simp
  | cons e l ih =>
    obtain ⟨a, b⟩ := e
    by_cases hak : a = k
    · subst hak
      by_cases hxa : x = a
      · subst hxa; simpa using ih
      · simp [ih, hxa, List.lookup_cons, beq_false_of_ne hxa]
    · by_cases hxa : x = a
      · subst hxa; simp [hak]
      · simp [List.lookup_cons, hak, beq_false_of_ne hxa, ih]

theorem lookup_cons_filter_key_ne (l : List (α × β)) (k x : α) (v : β) :
    ((k, v) :: l.filter (fun e => !(e.1 == k))).lookup x = if x = k then some v else l.lookup x := by
  by_cases hx : x = k
  · simp [hx]
  · simp [List.lookup_cons, beq_false_of_ne hx, hx, List.lookup_filter_key_ne]

end List
