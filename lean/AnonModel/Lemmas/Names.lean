import AnonModel.Model.Names
import AnonModel.Lemmas.Assoc
/-! Name normalisation (`attr_common_view`) and the lookups under it: `commonView` is idempotent (ASCII lower-casing is,
and it keeps "not a space"), so a list whose keys are normal forms is looked up by `List.lookup` of the normal form. -/
namespace AnonModel.Names

theorem toNat_toLower (c : Char) :
    c.toLower.toNat = if 65 ≤ c.toNat ∧ c.toNat ≤ 90 then c.toNat + 32 else c.toNat := by
  have hv : c.toNat < 4294967296 := c.val.toNat_lt
  unfold Char.toLower
  simp only [ge_iff_le, UInt32.le_iff_toNat_le]
  show (if h : 65 ≤ c.toNat ∧ c.toNat ≤ 90 then _ else c).toNat = _
  split
  · show (c.val + ('a'.val - 'A'.val)).toNat = _
    rw [UInt32.toNat_add]
    show (c.toNat + 32) % 4294967296 = _
    omega
  · rfl

theorem toLower_idem (c : Char) : c.toLower.toLower = c.toLower := by
  apply Char.toNat_inj.mp
  rw [toNat_toLower c.toLower, toNat_toLower c]
  split <;> (try split) <;> omega

theorem toLower_ne_space (c : Char) (h : c ≠ ' ') : c.toLower ≠ ' ' := by
  intro h2
  have h3 := congrArg Char.toNat h2
  rw [toNat_toLower] at h3
  have h4 : c.toNat ≠ 32 := fun h5 => h (Char.toNat_inj.mp h5)
  have : (' ' : Char).toNat = 32 := rfl
  split at h3 <;> omega

theorem map_filter_idem {α : Type} {p : α → Bool} {f : α → α} (hp : ∀ a, p a = true → p (f a) = true)
    (hf : ∀ a, f (f a) = f a) (l : List α) :
    (((l.filter p).map f).filter p).map f = (l.filter p).map f := by
  rw [List.filter_eq_self.mpr, List.map_map]
  · exact List.map_congr_left fun a _ => hf a
  · intro a ha
    obtain ⟨b, hb, rfl⟩ := List.mem_map.mp ha
    exact hp b (List.mem_filter.mp hb).2

theorem commonView_idem (s : String) : commonView (commonView s) = commonView s := by
  -- rewritten to a statement about character lists (`map_filter_idem`); closing `String.ofList _ = String.ofList _` by
  -- congruence tactics makes Lean try `rfl` on the strings first, which is slow
  unfold commonView
  rw [String.toList_ofList, map_filter_idem (fun a h => by simpa using toLower_ne_space a (by simpa using h))
    toLower_idem]

theorem lookupNorm_congr {β : Type} (kvs : List (String × β)) {n n' : String}
    (h : commonView n = commonView n') : lookupNorm kvs n = lookupNorm kvs n' := by
  unfold lookupNorm; rw [h]

theorem lookupNorm_of_normal {β : Type} {kvs : List (String × β)} (name : String)
    (hk : ∀ kv ∈ kvs, commonView kv.1 = kv.1) :
    lookupNorm kvs name = (kvs.lookup (commonView name)).map (fun v => (commonView name, v)) :=
  List.find?_fst_eq_lookup (p := fun k => commonView k == commonView name) fun kv hkv => by
    rw [hk kv hkv, Bool.beq_comm]

theorem lookupNorm_some {α : Type} {kvs : List (String × α)} {name : String} {kv : String × α}
    (h : lookupNorm kvs name = some kv) : kv ∈ kvs ∧ commonView kv.1 = commonView name :=
  ⟨List.mem_of_find?_eq_some h, by simpa using List.find?_some h⟩

theorem hasNorm_iff {names : List String} {name : String} :
    hasNorm names name = true ↔ ∃ a ∈ names, commonView a = commonView name := by
  simp [hasNorm]

end AnonModel.Names

namespace AnonModel.VerifierW3C

theorem lookupNorm_none_of {α : Type} {kvs : List (String × α)} {name : String}
    (h : ∀ kv ∈ kvs, Names.commonView kv.1 ≠ Names.commonView name) :
    Names.lookupNorm kvs name = none := by
  unfold Names.lookupNorm
  rw [List.find?_eq_none]
  intro kv hkv
  simpa using h kv hkv

end AnonModel.VerifierW3C
