import AnonModel.Model.Issuance
import AnonModel.Lemmas.Assoc
/-!
Issuance (`Model/Issuance.lean`): the comparison of the signed attribute map with the shown one
(`sameAttrs`) as a statement about entries, the entries of the normalised values, and when a request
has entropy.
-/
namespace AnonModel.Issuance

theorem entropyOf_isSome (r : CredRequest) :
    (entropyOf r).isSome = (r.entropy.isSome || r.proverDid.isSome) := by
  unfold entropyOf; cases r.entropy <;> rfl

def Functional (a : List (String × String)) : Prop :=
  ∀ k v v', (k, v) ∈ a → (k, v') ∈ a → v = v'

theorem functional_of_nodup_keys {a : List (String × String)} (h : (a.map Prod.fst).Nodup) :
    Functional a := fun _ _ _ h1 h2 =>
  Option.some.inj ((List.lookup_of_mem_nodup h h1).symm.trans (List.lookup_of_mem_nodup h h2))

theorem sameAttrs_iff_lookup (a b : List (String × String)) :
    sameAttrs a b = true ↔
      (∀ kv ∈ a, b.lookup kv.1 = some kv.2) ∧ (∀ kv ∈ b, a.lookup kv.1 = some kv.2) := by
  simp [sameAttrs, List.all_eq_true]

theorem sameAttrs_iff (a b : List (String × String)) :
    sameAttrs a b = true ↔ (∀ kv, kv ∈ a ↔ kv ∈ b) ∧ Functional a := by
  rw [sameAttrs_iff_lookup]
  constructor
  · rintro ⟨h1, h2⟩
    refine ⟨fun kv => ⟨fun h => List.mem_of_lookup (h1 kv h), fun h => List.mem_of_lookup (h2 kv h)⟩,
      fun k v v' hv hv' => ?_⟩
    exact Option.some.inj ((h1 _ hv).symm.trans (h1 _ hv'))
  · rintro ⟨hs, hf⟩
    have hfb : Functional b := fun k v v' h1 h2 => hf k v v' ((hs _).mpr h1) ((hs _).mpr h2)
    exact ⟨fun kv h => List.lookup_of_mem_of_unique ((hs kv).mp h) fun _ h' => hfb _ _ _ h' ((hs kv).mp h),
      fun kv h => List.lookup_of_mem_of_unique ((hs kv).mpr h) fun _ h' => hf _ _ _ h' ((hs kv).mpr h)⟩

theorem normAttrs_keys (values : List (String × String)) :
    (normAttrs values).map Prod.fst = values.map (fun nv => Names.commonView nv.1) := by
  simp [normAttrs, List.map_map, Function.comp_def]

theorem mem_normAttrs {values : List (String × String)} {kv : String × String} :
    kv ∈ normAttrs values ↔ ∃ nv ∈ values, kv = (Names.commonView nv.1, nv.2) := by
  simp [normAttrs, eq_comm]

end AnonModel.Issuance
