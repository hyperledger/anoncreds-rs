import AnonModel.Model.Base64
import AnonModel.Lemmas.List
import AnonModel.Lemmas.MapM
/-!
Base64url without padding, one group at a time: three bytes are four sextets and back (`group_bytes`, `group_sextets`, by
`omega` about variables), the alphabet has no repeated symbol, so `valOf` and `charOf` are inverse on `0 … 63`.
-/
namespace AnonModel.Base64

theorem alphabet_nodup : alphabet.Nodup := by decide +kernel

theorem valOf_charOf {n : Nat} (h : n < 64) : valOf (charOf n) = some n := by
  have hl : n < alphabet.length := h
  simp only [valOf, charOf, List.getD_eq_getElem?_getD, List.getElem?_eq_getElem hl, Option.getD_some,
    alphabet_nodup.idxOf_getElem, h, if_true]

theorem valOf_some {c : Char} {n : Nat} (h : valOf c = some n) : n < 64 ∧ charOf n = c := by
  obtain ⟨hi, ⟨⟩⟩ := Option.ite_none_right_eq_some.mp h
  have hl : alphabet.idxOf c < alphabet.length := hi
  exact ⟨hi, by simp [charOf, List.getD_eq_getElem?_getD, List.getElem?_eq_getElem hl]⟩

theorem group_bytes {a b c : Nat} (ha : a < 256) (hb : b < 256) (hc : c < 256) :
    (a / 4 < 64 ∧ a % 4 * 16 + b / 16 < 64 ∧ b % 16 * 4 + c / 64 < 64 ∧ c % 64 < 64) ∧
    a / 4 * 4 + (a % 4 * 16 + b / 16) / 16 = a ∧
    (a % 4 * 16 + b / 16) % 16 * 16 + (b % 16 * 4 + c / 64) / 4 = b ∧
    (b % 16 * 4 + c / 64) % 4 * 64 + c % 64 = c := by omega

theorem group_sextets {s0 s1 s2 s3 : Nat} (h0 : s0 < 64) (h1 : s1 < 64) (h2 : s2 < 64) (h3 : s3 < 64) :
    (s0 * 4 + s1 / 16 < 256 ∧ s1 % 16 * 16 + s2 / 4 < 256 ∧ s2 % 4 * 64 + s3 < 256) ∧
    (s0 * 4 + s1 / 16) / 4 = s0 ∧
    (s0 * 4 + s1 / 16) % 4 * 16 + (s1 % 16 * 16 + s2 / 4) / 16 = s1 ∧
    (s1 % 16 * 16 + s2 / 4) % 16 * 4 + (s2 % 4 * 64 + s3) / 64 = s2 ∧
    (s2 % 4 * 64 + s3) % 64 = s3 := by omega

/-- A final group of one or two bytes is a full group with zero bytes added, cut after two or three sextets: its facts are
`group_bytes` at `0`. -/
theorem encodeVals_spec : ∀ (bs : List Nat), AllLt 256 bs →
    AllLt 64 (encodeVals bs) ∧ decodeVals (encodeVals bs) = some bs
  | [], _ => ⟨allLt_nil _, rfl⟩
  | [a], h => by
    have g := group_bytes (allLt_cons.mp h).1 (Nat.zero_lt_succ 255) (Nat.zero_lt_succ 255)
    simp only [Nat.zero_div, Nat.add_zero] at g
    simp only [encodeVals, decodeVals, allLt_cons, allLt_nil, Nat.mul_mod_left, if_true, g, and_self]
  | [a, b], h => by
    have g := group_bytes (allLt_cons.mp h).1 (allLt_cons.mp (allLt_cons.mp h).2).1 (Nat.zero_lt_succ 255)
    simp only [Nat.zero_div, Nat.add_zero] at g
    simp only [encodeVals, decodeVals, allLt_cons, allLt_nil, Nat.mul_mod_left, if_true, g, and_self]
  | a :: b :: c :: rest, h => by
    simp only [allLt_cons] at h
    have g := group_bytes h.1 h.2.1 h.2.2.1
    have ih := encodeVals_spec rest h.2.2.2
    simp only [encodeVals, decodeVals, allLt_cons, ih, g, Option.map_some, and_self]

/-- the final group is `group_sextets` at `0` together with the refusal of non-zero unused bits -/
theorem encodeVals_decodeVals : ∀ (ss bs : List Nat), AllLt 64 ss → decodeVals ss = some bs →
    encodeVals bs = ss ∧ AllLt 256 bs
  | [], bs, _, h => by cases h; exact ⟨rfl, allLt_nil _⟩
  | [_], _, _, h => by cases h
  | [s0, s1], bs, hl, h => by
    simp only [allLt_cons] at hl
    have g := group_sextets hl.1 hl.2.1 (Nat.zero_lt_succ 63) (Nat.zero_lt_succ 63)
    obtain ⟨hz, ⟨⟩⟩ := Option.ite_none_right_eq_some.mp h
    simp only [hz, Nat.zero_div, Nat.add_zero, Nat.zero_mul] at g
    simp only [encodeVals, allLt_cons, allLt_nil, g, and_self]
  | [s0, s1, s2], bs, hl, h => by
    simp only [allLt_cons] at hl
    have g := group_sextets hl.1 hl.2.1 hl.2.2.1 (Nat.zero_lt_succ 63)
    obtain ⟨hz, ⟨⟩⟩ := Option.ite_none_right_eq_some.mp h
    simp only [hz, Nat.zero_div, Nat.add_zero, Nat.zero_mul] at g
    simp only [encodeVals, allLt_cons, allLt_nil, g, and_self]
  | s0 :: s1 :: s2 :: s3 :: rest, bs, hl, h => by
    simp only [allLt_cons] at hl
    have g := group_sextets hl.1 hl.2.1 hl.2.2.1 hl.2.2.2.1
    obtain ⟨t, ht, rfl⟩ := Option.map_eq_some_iff.mp h
    have ih := encodeVals_decodeVals rest t hl.2.2.2.2 ht
    simp only [encodeVals, allLt_cons, g, ih, and_self]

theorem mapM_valOf_map_charOf (ss : List Nat) (h : AllLt 64 ss) : (ss.map charOf).mapM valOf = some ss :=
  List.mapM_map_of_inverse ss fun s hs => valOf_charOf (h s hs)

theorem map_charOf_of_mapM_valOf (s : List Char) (ss : List Nat) (h : s.mapM valOf = some ss) :
    ss.map charOf = s ∧ AllLt 64 ss :=
  ⟨List.map_of_mapM_inverse (fun _ _ hc => (valOf_some hc).2) h,
    fun _ hn => have ⟨_, _, hc⟩ := (List.mem_iff_of_mapM h _).mp hn; (valOf_some hc).1⟩

end AnonModel.Base64
