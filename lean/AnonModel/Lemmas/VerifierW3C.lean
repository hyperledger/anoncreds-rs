import AnonModel.Model.VerifierW3C
import AnonModel.Lemmas.MapM
import AnonModel.Lemmas.VerifierCore
import AnonModel.Lemmas.Encode
/-!
The W3C verifier (`Model/VerifierW3C.lean: verifyW3C`): one lemma per check of
`check_request_data` / `check_credential_subjects`; its `add_sub_proof` as `subCtxOf` filtered by
the consistency check (`subCtxFor_eq`); the verifier as an instance of `verdict` (`verifyW3C_eq`);
`CredSound`, what an accepted presentation guarantees about each of its credentials, and
`ok_revealed`, what a passed value check then says about the signed credential; and small concrete
presentations (`Demo…`) for the non-vacuity `example`s of `Props/C01W3C … C12W3C`.
-/
namespace AnonModel.VerifierW3C
open AnonModel.Query (Query Filter)
open AnonModel.Interval (Ivl Overrides)
open AnonModel.IdealCL
open AnonModel.Verifier
open AnonModel

theorem lookup_some_mem {α β : Type} [BEq α] [LawfulBEq α] {l : List (α × β)} {a : α} {b : β}
    (h : l.lookup a = some b) : (a, b) ∈ l := List.mem_of_lookup h

theorem getAttribute_some {c : Cred} {name k : String} {v : SubjVal}
    (h : getAttribute c name = some (k, v)) :
    (k, v) ∈ c.subject ∧ Names.commonView k = Names.commonView name ∧ (∀ b, v ≠ .bool b) := by
  unfold getAttribute subjLookup at h
  split at h <;> cases h
  all_goals
    rename_i hl
    exact ⟨(Names.lookupNorm_some hl).1, (Names.lookupNorm_some hl).2, nofun⟩

theorem getPredicate_some {c : Cred} {name a : String} (h : getPredicate c name = some a) :
    (∃ b, (a, SubjVal.bool b) ∈ c.subject) ∧ Names.commonView a = Names.commonView name := by
  unfold getPredicate subjLookup at h
  split at h <;> cases h
  rename_i hl
  exact ⟨⟨_, (Names.lookupNorm_some hl).1⟩, (Names.lookupNorm_some hl).2⟩

theorem mem_subjectValues {c : Cred} {k : String} {ov : Option String} :
    (k, ov) ∈ subjectValues c ↔
      ∃ v, (k, v) ∈ c.subject ∧ (∀ b, v ≠ .bool b) ∧ ov = some v.toStr := by
  simp only [subjectValues, List.mem_filterMap]
  constructor
  · rintro ⟨⟨k', v⟩, hm, he⟩
    cases v <;> cases he <;> exact ⟨_, hm, nofun, rfl⟩
  · rintro ⟨v, hm, hnb, rfl⟩
    refine ⟨(k, v), hm, ?_⟩
    cases v with
    | bool b => exact absurd rfl (hnb b)
    | _ => rfl

theorem conditionsOk_iff {ctx : Ctx} {r : Request} {c : Cred} {restr : Option Query}
    {loc : Option Ivl} :
    conditionsOk ctx r c restr loc = true ↔
      (∀ q, restr = some q → ∃ f, gatherFilter ctx ⟨c.schemaId, c.credDefId, c.revRegId, none⟩ = some f ∧
          Query.eval Ident.isLegacyDid (subjectValues c) f q = true) ∧
      Interval.checkW3C loc r.nonRevoked c.revRegId ctx.override c.timestamp = true := by
  unfold conditionsOk
  rw [Bool.and_eq_true]
  refine and_congr_left' ?_
  cases restr with
  | none => simp
  | some q => cases gatherFilter ctx ⟨c.schemaId, c.credDefId, c.revRegId, none⟩ <;> simp

theorem revealedBy_iff {ctx : Ctx} {r : Request} {name : String} {restr : Option Query}
    {loc : Option Ivl} {c : Cred} :
    revealedBy ctx r name restr loc c = true ↔
      ∃ k v, getAttribute c name = some (k, v) ∧
        revealedValueOk k c.sub (Encode.encode v.toStr) = true ∧
        conditionsOk ctx r c restr loc = true := by
  unfold revealedBy
  cases getAttribute c name with
  | none => simp
  | some kv =>
    simp only [Bool.and_eq_true, Option.some.injEq]
    exact ⟨fun h => ⟨_, _, rfl, h⟩, fun ⟨_, _, e, h⟩ => e ▸ h⟩

theorem heldBy_true {ctx : Ctx} {r : Request} {name : String} {restr : Option Query}
    {loc : Option Ivl} :
    ∀ {creds : List Cred}, heldBy ctx r name restr loc creds = some true →
      ∃ c ∈ creds, ∃ sc, ctx.schemas.lookup c.schemaId = some sc ∧
        Names.hasNorm sc.attrNames name = true ∧ conditionsOk ctx r c restr loc = true := by
  intro creds h
  induction creds with
  | nil => cases h
  | cons c rest ih =>
    unfold heldBy at h
    split at h
    · cases h
    · split at h
      · exact ⟨c, List.mem_cons_self, _, ‹_›, Bool.and_eq_true_iff.mp ‹_›⟩
      · obtain ⟨d, hd, rest'⟩ := ih h
        exact ⟨d, List.mem_cons_of_mem _ hd, rest'⟩

theorem requestedAttributeOk_cases {ctx : Ctx} {r : Request} {p : Presentation} {name : String}
    {restr : Option Query} {loc : Option Ivl}
    (h : requestedAttributeOk ctx r p name restr loc = true) :
    (∃ c ∈ p.creds, revealedBy ctx r name restr loc c = true) ∨
      heldBy ctx r name restr loc p.creds = some true := by
  unfold requestedAttributeOk at h
  split at h
  · exact Or.inl (List.any_eq_true.mp ‹_›)
  · exact Or.inr (beq_iff_eq.mp h)

theorem requestedPredicateOk_iff {ctx : Ctx} {r : Request} {p : Presentation} {q : PredInfo} :
    requestedPredicateOk ctx r p q = true ↔
      ∃ c ∈ p.creds, ∃ a, getPredicate c q.name = some a ∧
        (∃ pr ∈ c.sub.preds, Names.commonView pr.attr = Names.commonView a ∧ pr.ty = q.ty ∧
          pr.value = q.value) ∧
        conditionsOk ctx r c q.restrictions q.nonRevoked = true := by
  simp only [requestedPredicateOk, List.any_eq_true]
  refine exists_congr fun c => and_congr_right fun _ => ?_
  cases getPredicate c q.name <;>
    simp only [Bool.and_eq_true, List.any_eq_true, beq_iff_eq, and_assoc, reduceCtorEq, false_and,
      exists_false, Option.some.injEq, exists_eq_left']

theorem issuersOk_mem {ctx : Ctx} {p : Presentation} (h : issuersOk ctx p = true) {c : Cred}
    (hc : c ∈ p.creds) :
    ∃ cd, ctx.credDefs.lookup c.credDefId = some cd ∧ cd.issuerId = c.issuer ∧
      c.verificationMethod = c.credDefId := by
  have := List.all_eq_true.mp h c hc
  split at this
  · cases this
  · exact ⟨_, ‹_›, by simpa using this⟩

theorem requestDataOk_iff {ctx : Ctx} {r : Request} {p : Presentation} :
    requestDataOk ctx r p = true ↔
      (∀ kv ∈ r.attrs, ∀ n ∈ kv.2.allNames,
        requestedAttributeOk ctx r p n kv.2.restrictions kv.2.nonRevoked = true) ∧
      (∀ kv ∈ r.preds, requestedPredicateOk ctx r p kv.2 = true) ∧
      issuersOk ctx p = true := by
  unfold requestDataOk
  simp only [Bool.and_eq_true, List.all_eq_true, and_assoc]

theorem subjectsOk_iff {p : Presentation} :
    subjectsOk p = true ↔ ∀ c ∈ p.creds, ∀ kv ∈ c.subject,
      ((∀ b, kv.2 ≠ .bool b) → revealedValueOk kv.1 c.sub (Encode.encode kv.2.toStr) = true) ∧
      (∀ b, kv.2 = .bool b →
        ∃ pr ∈ c.sub.preds, Names.commonView pr.attr = Names.commonView kv.1) := by
  simp only [subjectsOk, List.all_eq_true]
  refine forall₂_congr fun c _ => forall₂_congr fun kv _ => ?_
  obtain ⟨k, v⟩ := kv
  cases v <;> simp

/-- the identifier under which `add_sub_proof` looks up what the verifier supplied for `c` -/
def Cred.ident (c : Cred) : Identifier :=
  { schemaId := c.schemaId, credDefId := c.credDefId, revRegId := c.revRegId,
    timestamp := c.timestamp }

theorem subCtxFor_eq (ctx : Ctx) (c : Cred) :
    subCtxFor ctx c = (subCtxOf ctx c.ident).filter (addSubProofRequestOk · c.sub) := by
  unfold subCtxFor subCtxOf Cred.ident
  cases ctx.schemas.lookup c.schemaId <;> cases ctx.credDefs.lookup c.credDefId <;> try rfl
  dsimp only
  cases revocationRegistry ctx ⟨c.schemaId, c.credDefId, c.revRegId, c.timestamp⟩ <;> rfl

theorem subCtxFor_eq_some_iff {ctx : Ctx} {c : Cred} {sctx : SubCtx} :
    subCtxFor ctx c = some sctx ↔
      subCtxOf ctx c.ident = some sctx ∧ addSubProofRequestOk sctx c.sub = true := by
  rw [subCtxFor_eq, Option.filter_eq_some_iff]

theorem mapM_subCtxFor_getElem {ctx : Ctx} :
    ∀ {creds : List Cred} {cs : List SubCtx}, creds.mapM (subCtxFor ctx) = some cs →
      ∀ (i : Nat) (c : Cred), creds[i]? = some c →
        ∃ sctx, cs[i]? = some sctx ∧ subCtxFor ctx c = some sctx :=
  fun h _ _ hi => List.getElem?_of_mapM h hi

/-- the checks of `verify_presentation` before the CL verifier is set up -/
def preChecks (ctx : Ctx) (r : Request) (p : Presentation) : Bool :=
  p.validateOk && p.creds.all (·.proofOk) && requestDataOk ctx r p && subjectsOk p &&
    p.presProofOk && listsOk ctx

theorem verifyW3C_eq (ctx : Ctx) (r : Request) (p : Presentation) :
    verifyW3C ctx r p =
      verdict (preChecks ctx r p) (p.creds.mapM (subCtxFor ctx)) (p.creds.map (·.sub)) p.agg
        r.nonce := by
  rw [verifyW3C, preChecks, verdict]
  cases p.validateOk; · rfl
  cases p.creds.all (·.proofOk); · rfl
  cases requestDataOk ctx r p; · rfl
  cases subjectsOk p; · rfl
  cases p.presProofOk; · rfl
  cases listsOk ctx; · rfl
  cases p.creds.mapM (subCtxFor ctx) with
  | none => rfl
  | some cs => dsimp only [Bool.and_self, cond, Option.bind_some]; rfl

/-- every stage of `verify_presentation` passes -/
structure Accepted (ctx : Ctx) (r : Request) (p : Presentation) : Prop where
  validate : p.validateOk = true
  credProofs : p.creds.all (·.proofOk) = true
  requestData : requestDataOk ctx r p = true
  subjects : subjectsOk p = true
  presProof : p.presProofOk = true
  lists : listsOk ctx = true
  cl : ∃ cs, p.creds.mapM (subCtxFor ctx) = some cs ∧
    IdealCL.verify cs (p.creds.map (·.sub)) p.agg r.nonce true = some true

theorem verifyW3C_ok_true_iff {ctx : Ctx} {r : Request} {p : Presentation} :
    verifyW3C ctx r p = .ok true ↔ Accepted ctx r p := by
  simp only [verifyW3C_eq, verdict_ok_iff, preChecks, Bool.and_eq_true, and_assoc]
  exact ⟨fun ⟨a, b, c, d, e, f, g⟩ => ⟨a, b, c, d, e, f, g⟩,
    fun ⟨a, b, c, d, e, f, g⟩ => ⟨a, b, c, d, e, f, g⟩⟩

/-- the guarantees an accepted presentation gives about one of its credentials: the verifier was
given a definition and a schema for its ids; the sub-proof is unaltered and was built from a
credential signed by the key of *that* definition, with exactly the (normalised) attributes of
*that* schema; what the sub-proof reveals are signed values, what it claims as predicates holds
of the signed values; issuer and verification method are those of the definition. -/
def CredSound (ctx : Ctx) (c : Cred) : Prop :=
  ∃ cd sc, ctx.credDefs.lookup c.credDefId = some cd ∧ ctx.schemas.lookup c.schemaId = some sc ∧
    c.sub.intact = true ∧ c.sub.cred.key = cd.key ∧
    (∀ a, a ∈ sc.attrNames.map Names.commonView ↔ a ∈ c.sub.cred.attrs.map Prod.fst) ∧
    (∀ kv ∈ c.sub.revealed, c.sub.cred.attrs.lookup kv.1 = some kv.2) ∧
    (∀ pr ∈ c.sub.preds, IdealCL.predHolds c.sub.cred.attrs pr = true) ∧
    cd.issuerId = c.issuer ∧ c.verificationMethod = c.credDefId

theorem CredSound.intact {ctx : Ctx} {c : Cred} (h : CredSound ctx c) : c.sub.intact = true := by
  obtain ⟨_, _, _, _, h1, _⟩ := h; exact h1

theorem CredSound.key {ctx : Ctx} {c : Cred} {cd : CredDefInfo} (h : CredSound ctx c)
    (hcd : ctx.credDefs.lookup c.credDefId = some cd) : c.sub.cred.key = cd.key := by
  obtain ⟨_, _, hcd', _, _, h1, _⟩ := h
  cases hcd.symm.trans hcd'; exact h1

theorem CredSound.issuer {ctx : Ctx} {c : Cred} {cd : CredDefInfo} (h : CredSound ctx c)
    (hcd : ctx.credDefs.lookup c.credDefId = some cd) : cd.issuerId = c.issuer := by
  obtain ⟨_, _, hcd', _, _, _, _, _, _, h1, _⟩ := h
  cases hcd.symm.trans hcd'; exact h1

theorem CredSound.attrs {ctx : Ctx} {c : Cred} {sc : SchemaInfo} (h : CredSound ctx c)
    (hsc : ctx.schemas.lookup c.schemaId = some sc) :
    ∀ a, a ∈ sc.attrNames.map Names.commonView ↔ a ∈ c.sub.cred.attrs.map Prod.fst := by
  obtain ⟨_, _, _, hsc', _, _, h1, _⟩ := h
  cases hsc.symm.trans hsc'; exact h1

theorem CredSound.revealed_signed {ctx : Ctx} {c : Cred} (h : CredSound ctx c) :
    ∀ kv ∈ c.sub.revealed, c.sub.cred.attrs.lookup kv.1 = some kv.2 := by
  obtain ⟨_, _, _, _, _, _, _, h1, _⟩ := h; exact h1

theorem CredSound.preds_hold {ctx : Ctx} {c : Cred} (h : CredSound ctx c) :
    ∀ pr ∈ c.sub.preds, IdealCL.predHolds c.sub.cred.attrs pr = true := by
  obtain ⟨_, _, _, _, _, _, _, _, h1, _⟩ := h; exact h1

theorem CredSound.method {ctx : Ctx} {c : Cred} (h : CredSound ctx c) :
    c.verificationMethod = c.credDefId := by
  obtain ⟨_, _, _, _, _, _, _, _, _, _, h1⟩ := h; exact h1

theorem ok_cred_facts {ctx : Ctx} {r : Request} {p : Presentation}
    (h : verifyW3C ctx r p = .ok true) {c : Cred} (hc : c ∈ p.creds) :
    paramsConsistent c.sub = true ∧
    ∃ sctx, subCtxOf ctx c.ident = some sctx ∧ primaryOk sctx c.sub = true ∧
      (nrpChecked sctx c.sub = true → nrpOk sctx c.sub = true) := by
  obtain ⟨cs, hcs, -, hall⟩ := verdict_ok_true_get (verifyW3C_eq ctx r p ▸ h)
  obtain ⟨i, hi⟩ := List.getElem?_of_mem hc
  obtain ⟨sctx, hs, hf⟩ := List.getElem?_of_mapM hcs hi
  obtain ⟨-, hpc, hp, hnrp⟩ := hall i sctx c.sub hs (by rw [List.getElem?_map, hi]; rfl)
  exact ⟨hpc, sctx, (subCtxFor_eq_some_iff.mp hf).1, hp, hnrp⟩

theorem credSound_of_ok {ctx : Ctx} {r : Request} {p : Presentation}
    (h : verifyW3C ctx r p = .ok true) {c : Cred} (hc : c ∈ p.creds) : CredSound ctx c := by
  obtain ⟨-, sctx, hs, hp, -⟩ := ok_cred_facts h hc
  obtain ⟨cd, sc, hcd, hsc, h1, h2, h3, h4, h5⟩ := sound_of_primaryOk hs hp
  obtain ⟨cd', hcd', hiss, hvm⟩ :=
    issuersOk_mem (requestDataOk_iff.mp (verifyW3C_ok_true_iff.mp h).requestData).2.2 hc
  cases hcd.symm.trans hcd'
  exact ⟨cd, sc, hcd, hsc, h1, h2, h3, h4, h5, hiss, hvm⟩

/-- names inside an accepted sub-proof being in normal form, the signed credential has the value under `commonView k` -/
theorem ok_revealed {ctx : Ctx} {r : Request} {p : Presentation}
    (h : verifyW3C ctx r p = .ok true) {c : Cred} (hc : c ∈ p.creds) {k x : String}
    (hv : revealedValueOk k c.sub (Encode.encode x) = true) :
    (∃ kv ∈ c.sub.revealed, Names.commonView kv.1 = Names.commonView k ∧ kv.2 = Encode.encode x ∧
      c.sub.cred.attrs.lookup kv.1 = some kv.2) ∧
    c.sub.cred.attrs.lookup (Names.commonView k) = some (Encode.encode x) := by
  obtain ⟨kv, hm, hn, he⟩ := revealedValueOk_elim hv
  rw [Encode.normalizeEnc_encode] at he
  have hl := (credSound_of_ok h hc).revealed_signed kv hm
  have hnorm := (paramsConsistent_iff.mp (ok_cred_facts h hc).1).1 kv hm
  exact ⟨⟨kv, hm, hn, he.symm, hl⟩, by rw [← hn, hnorm, hl, he]⟩

namespace Demo

def sub : SymSub :=
  { revealed := [("n", "25")], preds := [⟨"a", "GE", 18⟩],
    cred := { key := 1, attrs := [("n", "25"), ("a", "30")], holder := 7, rev := none },
    nrp := none, ms := (7, 1), intact := true, uid := 5 }

def cred : Cred :=
  { issuer := "I", subject := [("N", .str "25"), ("a", .bool true)], proofOk := true,
    verificationMethod := "cd", schemaId := "s", credDefId := "cd", revRegId := none,
    timestamp := none, sub := sub }

def ctx : Ctx :=
  { schemas := [("s", { name := "nm", version := "1", issuerId := "I", attrNames := ["N", "A"] })],
    credDefs := [("cd", { issuerId := "I", key := 1, revocable := false })],
    revRegDefs := none, lists := none, override := none }

def req : Request :=
  { nonce := "1",
    attrs := [("r1", { name := some "n", names := none,
                       restrictions := some (.eq "cred_def_id" "cd"), nonRevoked := none })],
    preds := [("p1", { name := "a", ty := "GE", value := 18,
                       restrictions := some (.eq "issuer_id" "I"), nonRevoked := none })],
    nonRevoked := none }

def pres : Presentation :=
  { validateOk := true, creds := [cred], presProofOk := true,
    agg := { nonce := "1", bound := [(5, false)], intact := true } }

end Demo

theorem Demo.accepted : verifyW3C Demo.ctx Demo.req Demo.pres = .ok true := by decide +kernel

/- witness for finding F3 (DESIGN §7; evaluated in `Props/C02W3C.lean`): request-wide interval, revocable definition, the presentation names registry `rr`
and the timestamp of a supplied list inside the interval, but the sub-proof has **no**
non-revocation part (the credential — index 4 of the registry with key 9 — may be revoked in that
list) -/
namespace DemoNoNrp

def sub : SymSub := { Demo.sub with cred := { Demo.sub.cred with rev := some (9, 4) } }

def cred : Cred := { Demo.cred with revRegId := some "rr", timestamp := some 10, sub := sub }

def ctx : Ctx :=
  { Demo.ctx with
    credDefs := [("cd", { issuerId := "I", key := 1, revocable := true })],
    revRegDefs := some [("rr", { regKey := 9 })],
    lists := some [{ regId := some "rr", ts := some 10, acc := some 3 }] }

def req : Request :=
  { nonce := "1",
    attrs := [("r1", { name := some "n", names := none, restrictions := none, nonRevoked := none })],
    preds := [("p1", { name := "a", ty := "GE", value := 18, restrictions := none,
                       nonRevoked := none })],
    nonRevoked := some ⟨some 5, some 20⟩ }

def pres : Presentation := { Demo.pres with creds := [cred] }

end DemoNoNrp

/- witness for finding F4 (DESIGN §7; evaluated in `Props/C02W3C.lean`): as `DemoNoNrp`, but the presentation names neither registry nor timestamp -/
namespace DemoStripRegId

def cred : Cred := { DemoNoNrp.cred with revRegId := none, timestamp := none }

def pres : Presentation := { DemoNoNrp.pres with creds := [cred] }

end DemoStripRegId

/- honest revocable presentation: non-revocation part for the accumulator of the named list -/
namespace DemoNrp

def sub : SymSub :=
  { DemoNoNrp.sub with nrp := some { regKey := 9, idx := 4, acc := 3, witOk := true } }

def cred : Cred := { DemoNoNrp.cred with sub := sub }

def pres : Presentation :=
  { DemoNoNrp.pres with creds := [cred], agg := { nonce := "1", bound := [(5, true)], intact := true } }

end DemoNrp

end AnonModel.VerifierW3C
