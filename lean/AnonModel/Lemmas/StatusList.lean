import AnonModel.Model.StatusList
import AnonModel.Lemmas.List
/-!
Helper lemmas for C09 / C10: pointwise characterisations of the status-list update,
the reachability invariant (accumulator = closed form of the bits), support bounds
(which make the bounded executable checks exact) and the witness derivations.
-/
namespace AnonModel.StatusList

theorem length_setAll (bits : List Bool) (idx : List Nat) (v : Bool) :
    (setAll bits idx v).length = bits.length := by
  unfold setAll
  induction idx generalizing bits with
  | nil => rfl
  | cons i is ih => simp only [List.foldl_cons]; rw [ih]; simp

theorem getElem?_setAll (bits : List Bool) (idx : List Nat) (v : Bool) (j : Nat) :
    (setAll bits idx v)[j]? = if j ∈ idx then (bits[j]?).map (fun _ => v) else bits[j]? := by
  unfold setAll
  induction idx generalizing bits with
  | nil => simp
  | cons i is ih =>
    simp only [List.foldl_cons]
    rw [ih]
    simp only [List.getElem?_set, List.mem_cons]
    grind

theorem mem_filterIssued {bits : List Bool} {l : List Nat} {j : Nat} :
    j ∈ filterIssued bits l ↔ j ∈ l ∧ bits[j]? = some true := by
  simp only [filterIssued, List.mem_filter, List.getD_eq_getElem?_getD]
  cases bits[j]? <;> simp

theorem mem_filterRevoked {bits : List Bool} {l : List Nat} {j : Nat} :
    j ∈ filterRevoked bits l ↔ j ∈ l ∧ bits[j]? = some false := by
  simp only [filterRevoked, List.mem_filter, List.getD_eq_getElem?_getD]
  cases bits[j]? <;> simp

/-- the declarative per-entry rule of an update, judged against the current bit `b` -/
def specBit (b : Bool) (inIssued inRevoked : Bool) : Bool :=
  if b = true ∧ inIssued = true then false
  else if b = false ∧ inRevoked = true then true
  else b

theorem length_setBits (bits : List Bool) (i r : Option (List Nat)) :
    (setBits bits i r).length = bits.length := by
  simp [setBits, length_setAll]

theorem length_update (s : SL) (I R : Option (List Nat)) (ts : Option Nat) :
    (update s I R ts).bits.length = s.bits.length := by
  simp [update, length_setBits]

theorem mem_getD_map_filterIssued {bits : List Bool} {I : Option (List Nat)} {j : Nat} :
    j ∈ (I.map (filterIssued bits)).getD [] ↔ j ∈ I.getD [] ∧ bits[j]? = some true := by
  cases I <;> simp [mem_filterIssued]

theorem mem_getD_map_filterRevoked {bits : List Bool} {R : Option (List Nat)} {j : Nat} :
    j ∈ (R.map (filterRevoked bits)).getD [] ↔ j ∈ R.getD [] ∧ bits[j]? = some false := by
  cases R <;> simp [mem_filterRevoked]

theorem getElem?_update (s : SL) (I R : Option (List Nat)) (ts : Option Nat) (j : Nat) :
    (update s I R ts).bits[j]? =
      (s.bits[j]?).map fun b => specBit b (decide (j ∈ I.getD [])) (decide (j ∈ R.getD [])) := by
  simp only [update, setBits, getElem?_setAll, mem_getD_map_filterIssued, mem_getD_map_filterRevoked]
  cases h : s.bits[j]? with
  | none => simp
  | some b => cases b <;> simp [specBit] <;> split <;> simp_all

theorem acc_update (s : SL) (I R : Option (List Nat)) (ts : Option Nat) (j : Nat) :
    (update s I R ts).acc j =
      s.acc j + (if j ∈ I.getD [] ∧ s.bits[j]? = some true then 1 else 0)
              - (if j ∈ R.getD [] ∧ s.bits[j]? = some false then 1 else 0) := by
  simp only [update, accUpdate, mem_getD_map_filterIssued, mem_getD_map_filterRevoked]

theorem update?_eq_some (s : SL) (I R : Option (List Nat)) (ts : Option Nat) :
    update? s I R ts = some (update s I R ts) := by
  -- both filters keep only positions that exist
  have hin : ∀ {l : List Nat}, (∀ x ∈ l, ∃ b, s.bits[x]? = some b) →
      l.any (fun i => s.bits.length ≤ i) = false := by
    intro l h
    rw [List.any_eq_false]
    intro x hx
    obtain ⟨b, hb⟩ := h x hx
    have := List.getElem?_lt hb
    simp; omega
  simp [update?, update, setBits?, hin fun x hx => ⟨_, (mem_getD_map_filterIssued.mp hx).2⟩,
    hin fun x hx => ⟨_, (mem_getD_map_filterRevoked.mp hx).2⟩]

/-- status lists of a registry of size `L` created in mode `byDefault`: the created
list and everything obtained from it by updates and timestamp-only updates -/
inductive Reachable (L : Nat) (byDefault : Bool) : SL → Prop where
  | create (ts : Option Nat) : Reachable L byDefault (create L byDefault ts)
  | update {s : SL} (I R : Option (List Nat)) (ts : Option Nat) :
      Reachable L byDefault s → Reachable L byDefault (update s I R ts)
  | tsOnly {s : SL} (t : Nat) : Reachable L byDefault s → Reachable L byDefault (updateTsOnly s t)

/-- closed form of the accumulator in terms of the bits:
`base(mode) + Σ_{i < L, bits_i ≠ initBit(mode)} ±e_i`, evaluated at `j`.
By default the base is `1` on `1…L` and a set bit (≠ initial `0`) contributes `-1`;
on demand the base is `0` and a clear bit (≠ initial `1`) contributes `+1`. -/
def accOf (L : Nat) (byDefault : Bool) (bits : List Bool) : Acc := fun j =>
  accInit L byDefault j +
    (if bits[j]? = some byDefault then (if byDefault then -1 else 1) else 0)

theorem accOf_byDefault (L : Nat) (bits : List Bool) (j : Nat) :
    accOf L true bits j = (if 1 ≤ j ∧ j ≤ L then 1 else 0) - (if bits[j]? = some true then 1 else 0) := by
  simp only [accOf, accInit, true_and, if_true]
  split <;> split <;> rfl

theorem accOf_onDemand (L : Nat) (bits : List Bool) (j : Nat) :
    accOf L false bits j = if bits[j]? = some false then 1 else 0 := by
  simp [accOf, accInit]

theorem applyOp_reachable {L : Nat} {bd : Bool} {s : SL} (h : Reachable L bd s) (op : Op) :
    Reachable L bd (applyOp s op) := by
  cases op with
  | update i r t => exact .update i r t h
  | tsOnly t => exact .tsOnly t h

theorem final_reachable {L : Nat} {bd : Bool} {s : SL} (h : Reachable L bd s) (ops : List Op) :
    Reachable L bd (final s ops) :=
  ops.foldlRecOn applyOp h fun _ hs op _ => applyOp_reachable hs op

/-! ### recorded histories: `final` is core's `foldl`, `runFrom` its `scanl` -/

theorem runFrom_eq_scanl (s : SL) (ops : List Op) : runFrom s ops = ops.scanl applyOp s := by
  induction ops generalizing s with
  | nil => rfl
  | cons op ops ih => simp [runFrom, ih]

theorem getElem?_runFrom {s : SL} {ops : List Op} {i : Nat} {t : SL} :
    (runFrom s ops)[i]? = some t ↔ i ≤ ops.length ∧ t = final s (ops.take i) := by
  simp [runFrom_eq_scanl, List.getElem?_scanl, final, eq_comm]

theorem runFrom_append_take (s : SL) (ops more : List Op) :
    (runFrom s (ops ++ more)).take (ops.length + 1) = runFrom s ops := by
  rw [runFrom_eq_scanl, List.take_scanl, List.take_left', runFrom_eq_scanl]
  rfl

theorem getElem?_runFrom_append {s : SL} {ops : List Op} {i : Nat} {t : SL}
    (h : (runFrom s ops)[i]? = some t) (more : List Op) : (runFrom s (ops ++ more))[i]? = some t := by
  obtain ⟨hi, rfl⟩ := getElem?_runFrom.mp h
  exact getElem?_runFrom.mpr ⟨by simp; omega, by rw [List.take_append_of_le_length hi]⟩

theorem mem_runFrom_reachable {L : Nat} {bd : Bool} {s : SL} (h : Reachable L bd s) (ops : List Op) :
    ∀ t ∈ runFrom s ops, Reachable L bd t := by
  intro t ht
  obtain ⟨i, hi⟩ := List.mem_iff_getElem?.mp ht
  rw [(getElem?_runFrom.mp hi).2]
  exact final_reachable h _

theorem reachable_iff_final {L : Nat} {bd : Bool} {s : SL} :
    Reachable L bd s ↔ ∃ ts ops, s = final (create L bd ts) ops := by
  constructor
  · intro h
    induction h with
    | create ts => exact ⟨ts, [], rfl⟩
    | update I R t _ ih =>
      obtain ⟨ts, ops, rfl⟩ := ih
      exact ⟨ts, ops ++ [.update I R t], by simp [final, applyOp]⟩
    | tsOnly t _ ih =>
      obtain ⟨ts, ops, rfl⟩ := ih
      exact ⟨ts, ops ++ [.tsOnly t], by simp [final, applyOp]⟩
  · rintro ⟨ts, ops, rfl⟩
    exact final_reachable (.create ts) ops

theorem reachable_length {L : Nat} {bd : Bool} {s : SL} (h : Reachable L bd s) :
    s.bits.length = L := by
  induction h with
  | create ts => simp [create]
  | update I R t _ ih => rw [length_update]; exact ih
  | tsOnly t _ ih => exact ih

theorem reachable_acc {L : Nat} {bd : Bool} {s : SL} (h : Reachable L bd s) :
    s.acc = accOf L bd s.bits := by
  induction h with
  | create ts =>
    -- every entry of the created list is `!bd`
    funext j
    have : (List.replicate L (!bd))[j]? ≠ some bd := by rw [List.getElem?_replicate]; split <;> simp
    simp [create, accOf, this]
  | @update s I R t _ ih =>
    -- entry by entry: the filtered request changes the multiplicity exactly when it flips the bit
    funext j
    rw [acc_update, ih]
    simp only [accOf, getElem?_update]
    cases hb : s.bits[j]? with
    | none => simp
    | some b =>
      cases b <;> cases bd <;> simp [specBit]
      all_goals (split <;> omega)
  | tsOnly t _ ih => exact ih

/-! ### support bounds: the bounded executable checks are exact -/

def Supp (n : Nat) (A : Acc) : Prop := ∀ j, n ≤ j → A j = 0

theorem all_range_iff {n : Nat} {p : Nat → Bool} (h : ∀ j, n ≤ j → p j = true) :
    (List.range n).all p = true ↔ ∀ j, p j = true := by
  simp only [List.all_eq_true, List.mem_range]
  exact ⟨fun hp j => (Nat.lt_or_ge j n).elim (hp j) (h j), fun hp j _ => hp j⟩

theorem accEqB_iff {n : Nat} {a b : Acc} (ha : Supp n a) (hb : Supp n b) :
    accEqB n a b = true ↔ a = b := by
  rw [accEqB, all_range_iff fun j hj => by rw [ha j hj, hb j hj]; rfl]
  simp only [beq_iff_eq, funext_iff]

theorem witnessValidB_iff {n k : Nat} {A w : Acc} (hA : Supp n A) (hw : Supp n w) :
    witnessValidB n k A w = true ↔ WitnessValid k A w := by
  rw [witnessValidB, Bool.and_eq_true, all_range_iff fun j hj => by rw [hA j hj, hw j hj]; simp]
  simp only [WitnessValid, decide_eq_true_eq, Bool.or_eq_true, beq_iff_eq, Decidable.or_iff_not_imp_left, Ne]

theorem supp_accOf {L : Nat} (bd : Bool) {bits : List Bool} (h : bits.length = L) :
    Supp (L + 1) (accOf L bd bits) := by
  intro j hj
  have : bits[j]? = none := by simp; omega
  simp only [accOf, accInit, this]
  have : ¬ (bd = true ∧ 1 ≤ j ∧ j ≤ L) := by omega
  simp [this]

theorem reachable_supp {L : Nat} {bd : Bool} {s : SL} (h : Reachable L bd s) : Supp (L + 1) s.acc := by
  rw [reachable_acc h]; exact supp_accOf bd (reachable_length h)

theorem accAdd_self (A : Acc) (k : Nat) (d : Int) : accAdd A k d k = A k + d := by simp [accAdd]

theorem accAdd_ne (A : Acc) (d : Int) {j k : Nat} (h : j ≠ k) : accAdd A k d j = A j := by simp [accAdd, h]

theorem supp_accAdd {n k : Nat} {A : Acc} (d : Int) (h : Supp n A) (hk : k < n) : Supp n (accAdd A k d) :=
  fun j hj => (accAdd_ne A d (by omega)).trans (h j hj)

theorem mem_indexDeltas_issued {old new : List Bool} {j : Nat} :
    j ∈ (indexDeltas old new).1 ↔ new[j]? = some false ∧ old[j]? = some true := by
  simp only [indexDeltas, List.mem_filter, List.mem_range, List.getD_eq_getElem?_getD, ← isSome_getElem? new j]
  rcases new[j]? with _ | _ | _ <;> rcases old[j]? with _ | _ | _ <;> simp

theorem mem_indexDeltas_revoked {old new : List Bool} {j : Nat} :
    j ∈ (indexDeltas old new).2 ↔ new[j]? = some true ∧ old[j]? ≠ some true := by
  simp only [indexDeltas, List.mem_filter, List.mem_range, List.getD_eq_getElem?_getD, ← isSome_getElem? new j]
  rcases new[j]? with _ | _ | _ <;> rcases old[j]? with _ | _ | _ <;> simp

theorem indexDeltas_lt {old new : List Bool} {j : Nat}
    (h : j ∈ (indexDeltas old new).1 ++ (indexDeltas old new).2) : j < new.length := by
  rw [List.mem_append, mem_indexDeltas_issued, mem_indexDeltas_revoked] at h
  rcases h with ⟨h, _⟩ | ⟨h, _⟩ <;> exact List.getElem?_lt h

/-- vector of the from-scratch witness: every index of `1…L` other than `k` whose
position is not marked revoked (positions that do not exist — index `L` — count as
issued) -/
def scratchVec (L : Nat) (bits : List Bool) (k : Nat) : Acc := fun j =>
  if j ≠ k ∧ 1 ≤ j ∧ j ≤ L ∧ bits[j]? ≠ some true then 1 else 0

theorem witnessScratch_eq_some_iff {L k : Nat} {s : SL} {w : Acc} :
    witnessScratch L s k = some w ↔ s.ts ≠ none ∧ 1 ≤ k ∧ k ≤ L ∧ w = scratchVec L s.bits k := by
  -- against the all-clear list the revoked delta is the set bits; by default the issued delta plays no role
  have e : ∀ I, (fun j => if j ≠ k ∧ issuedIndices L true I (indexDeltas (List.replicate L false) s.bits).2 j = true
      then (1 : Int) else 0) = scratchVec L s.bits k := by
    intro I; funext j
    have : (List.replicate L false)[j]? ≠ some true := by rw [List.getElem?_replicate]; split <;> simp
    simp [scratchVec, issuedIndices, mem_indexDeltas_revoked, and_assoc, this]
  cases hts : s.ts with
  | none => simp [witnessScratch, hts]
  | some t =>
    simp only [witnessScratch, hts, witnessNew, e]
    by_cases hk : k = 0 ∨ L < k
    · simp [hk]; omega
    · have : 1 ≤ k ∧ k ≤ L := by omega
      simp [hk, this, eq_comm]

/-- vector of the updated witness: index `k` is left alone; elsewhere what the index deltas of the two lists name as
revoked is taken away and what they name as issued is added -/
def updVec (w : Acc) (old new : List Bool) (k : Nat) : Acc := fun j =>
  if j = k then w j
  else if new[j]? = some true ∧ old[j]? ≠ some true then w j - 1
  else if new[j]? = some false ∧ old[j]? = some true then w j + 1
  else w j

theorem witnessUpdate_eq_some_iff {L k : Nat} {w w' : Acc} {old new : SL} :
    witnessUpdate L w old new k = some w' ↔
      new.ts ≠ none ∧ 1 ≤ k ∧ k ≤ L ∧
      (∀ j ∈ (indexDeltas old.bits new.bits).1 ++ (indexDeltas old.bits new.bits).2, j ≠ k → tailOk L k j = true) ∧
      w' = updVec w old.bits new.bits k := by
  unfold updVec
  cases hts : new.ts with
  | none => simp [witnessUpdate, hts]
  | some t =>
    simp only [witnessUpdate, hts, witnessUpd, mem_indexDeltas_issued, mem_indexDeltas_revoked]
    by_cases hk : k = 0 ∨ L < k
    · simp [hk]; omega
    · have : 1 ≤ k ∧ k ≤ L := by omega
      simp [hk, this, eq_comm (a := w'), or_imp, forall_and]

/-- every tail a credential index (`k < L`) needs for positions of the list is inside the file -/
theorem witnessUpdate_isSome {L k : Nat} (w : Acc) {old new : SL}
    (hts : new.ts ≠ none) (hk1 : 1 ≤ k) (hkL : k < L) (hlen : new.bits.length ≤ L) :
    (witnessUpdate L w old new k).isSome = true := by
  refine Option.isSome_iff_exists.mpr ⟨_, witnessUpdate_eq_some_iff.mpr ⟨hts, hk1, by omega, fun j hj _ => ?_, rfl⟩⟩
  have := indexDeltas_lt hj
  simp [tailOk]; omega

/-- the two branches as one: with `b` the entry at `k`, the credential embeds `acc + [b]·e_k` and the issuer
witness is `acc - [¬b]·e_k` -/
theorem issueAgainst_eq_some {L k : Nat} {s : SL} {A w : Acc} (h : issueAgainst L s k = some (A, w)) :
    ∃ b, s.bits[k]? = some b ∧ 1 ≤ k ∧ k ≤ L ∧
      A = accAdd s.acc k (if b then 1 else 0) ∧ w = accAdd s.acc k (if b then 0 else -1) := by
  have zero : accAdd s.acc k 0 = s.acc := by funext j; simp [accAdd]
  unfold issueAgainst at h
  cases hb : s.bits[k]? with
  | none => simp [hb] at h
  | some b =>
    simp only [hb] at h
    split at h
    · cases h
    · refine ⟨b, rfl, by omega, by omega, ?_⟩
      cases b <;> simp at h <;> simp [← h.1, ← h.2, zero]

/-- position 0 of a by-default registry, which has -1 when revoked, is not a credential index -/
theorem reachable_acc_idx {L : Nat} {bd : Bool} {s : SL} (h : Reachable L bd s) {k : Nat} {b : Bool}
    (hb : s.bits[k]? = some b) (hk : 1 ≤ k) : s.acc k = if b then 0 else 1 := by
  have hlt : k < L := reachable_length h ▸ List.getElem?_lt hb
  have : 1 ≤ k ∧ k ≤ L := by omega
  rw [reachable_acc h]
  cases bd <;> cases b <;> simp [accOf, accInit, hb, this]

theorem reachable_acc_revoked_idx {L : Nat} {bd : Bool} {s : SL} (h : Reachable L bd s) {k : Nat}
    (hb : s.bits[k]? = some true) : s.acc k ≤ 0 := by
  rw [reachable_acc h]
  cases bd
  · rw [accOf_onDemand]; simp [hb]
  · rw [accOf_byDefault]; simp [hb]; split <;> omega

/-- the accumulators of two lists of the same registry differ, entry by entry, exactly by the index deltas of the
two bit lists (in the form `Witness::update` applies them) -/
theorem reachable_acc_diff {L : Nat} {bd : Bool} {s t : SL} (hs : Reachable L bd s) (ht : Reachable L bd t)
    (j : Nat) :
    t.acc j = if t.bits[j]? = some true ∧ s.bits[j]? ≠ some true then s.acc j - 1
      else if t.bits[j]? = some false ∧ s.bits[j]? = some true then s.acc j + 1
      else s.acc j := by
  -- both lists have an entry at `j`, or neither has
  have hl : s.bits[j]? = none ↔ t.bits[j]? = none := by simp [reachable_length hs, reachable_length ht]
  rw [reachable_acc hs, reachable_acc ht]
  simp only [accOf]
  revert hl
  rcases s.bits[j]? with _ | a <;> rcases t.bits[j]? with _ | b <;> simp
  cases a <;> cases b <;> cases bd <;> simp <;> omega

/-! ### `w_k = 0` for every derivation; link to the pairing equation -/

/-- Under `w_k = 0` the trusted-base definition of `WitnessValid` is the pairing
equation `e(g_k, acc) / e(g, ω) = z` read coefficient-wise:
`A_j - w_j = [j = k]` for all `j`. -/
theorem witnessValid_iff_pairing {k : Nat} {A w : Acc} (hk : w k = 0) :
    WitnessValid k A w ↔ ∀ j, A j - w j = if j = k then 1 else 0 := by
  constructor
  · rintro ⟨h1, h2⟩ j
    by_cases hj : j = k
    · subst hj; simp [h1, hk]
    · simp [hj, h2 j hj]
  · intro h
    refine ⟨?_, fun j hj => ?_⟩
    · have := h k; simp [hk] at this; exact this
    · have := h j; simp [hj] at this; omega

theorem wk_zero_scratch {L k : Nat} {s : SL} {w : Acc} (h : witnessScratch L s k = some w) : w k = 0 := by
  obtain ⟨_, _, _, rfl⟩ := witnessScratch_eq_some_iff.mp h
  simp [scratchVec]

theorem wk_update {L k : Nat} {w w' : Acc} {old new : SL} (h : witnessUpdate L w old new k = some w') :
    w' k = w k := by
  obtain ⟨_, _, _, _, rfl⟩ := witnessUpdate_eq_some_iff.mp h
  simp [updVec]

theorem wk_zero_issue {L : Nat} {bd : Bool} {s : SL} (hr : Reachable L bd s) {k : Nat} {A w : Acc}
    (h : issueAgainst L s k = some (A, w)) : w k = 0 := by
  obtain ⟨b, hb, hk1, _, _, rfl⟩ := issueAgainst_eq_some h
  rw [accAdd_self, reachable_acc_idx hr hb hk1]
  cases b <;> rfl

theorem supp_scratch {L k : Nat} {s : SL} {w : Acc} (h : witnessScratch L s k = some w) :
    Supp (L + 1) w := by
  obtain ⟨_, _, _, rfl⟩ := witnessScratch_eq_some_iff.mp h
  intro j hj
  have : ¬ (j ≠ k ∧ 1 ≤ j ∧ j ≤ L ∧ s.bits[j]? ≠ some true) := by omega
  simp only [scratchVec, this, if_false]

theorem supp_witnessUpdate {L k : Nat} {w w' : Acc} {old new : SL}
    (h : witnessUpdate L w old new k = some w') (hw : Supp (L + 1) w) (hlen : new.bits.length ≤ L) :
    Supp (L + 1) w' := by
  obtain ⟨_, _, _, _, rfl⟩ := witnessUpdate_eq_some_iff.mp h
  intro j hj
  have hn : new.bits[j]? = none := by simp; omega
  simp [updVec, hn, hw j hj]

theorem supp_issue {L : Nat} {bd : Bool} {s : SL} (hr : Reachable L bd s) {k : Nat} {A w : Acc}
    (h : issueAgainst L s k = some (A, w)) : Supp (L + 1) A ∧ Supp (L + 1) w := by
  have hs := reachable_supp hr
  obtain ⟨_, _, _, hkL, rfl, rfl⟩ := issueAgainst_eq_some h
  exact ⟨supp_accAdd _ hs (by omega), supp_accAdd _ hs (by omega)⟩

end AnonModel.StatusList
