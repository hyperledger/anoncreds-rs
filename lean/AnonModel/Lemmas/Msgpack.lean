import AnonModel.Model.Msgpack
import AnonModel.Lemmas.List
/-!
# The msgpack reader, freed of its recursion bound

`dec (f + 1)` reads a *header* — the leading byte with the length or number behind it, which does not depend on `f` — and
then the children the header announces, with bound `f` (`dec_succ`; a value without children announces none). So a
statement about everything the reader returns needs one case for `dec`, "a header, then its children", and the two cases of
`decN`: that is the induction `dec_decN_ind`, and the facts about the reader below are its instances. The markers
`0xc0 … 0xdf` stand in one table, `marker` (kind and width); `dec`'s own chain of them is met once, in `dec_succ`, where it is
walked along the table. After that a header is read by kind (`markerHdr`): what it is when read from any bytes
(`markerHdr_spec`, `hdr_spec`), and that a header written is read as itself (`hdr_marker`, and from it `hdr_encInt …
hdr_mapHdr` along the writer's cases). The writer's side follows: `dec_enc`, the size of a value against its bytes (`sz_le`),
that bytes are written (`enc_lt`), and the member lookup of structures.
-/
namespace AnonModel.Msgpack
open AnonModel.Base64 (AllLt allLt_nil allLt_cons allLt_append)

/-! ## big-endian numbers and runs of bytes: written, then read -/

@[simp] theorem be_length : ∀ k n, (be k n).length = k
  | 0, _ => rfl
  | k + 1, n => by simp [be, be_length k n]

theorem be_lt : ∀ k n, AllLt 256 (be k n)
  | 0, _ => allLt_nil _
  | k + 1, n => allLt_cons.mpr ⟨Nat.mod_lt _ (by decide), be_lt k n⟩

theorem foldl_be : ∀ k n a, (be k n).foldl (fun a b => a * 256 + b) a = a * 256 ^ k + n % 256 ^ k
  | 0, n, a => by simp [be, Nat.mod_one]
  | k + 1, n, a => by
    simp only [be, List.foldl_cons]
    rw [foldl_be k n, Nat.mod_pow_succ, Nat.pow_succ, Nat.add_mul, Nat.mul_assoc, Nat.mul_comm 256,
      Nat.mul_comm (n / 256 ^ k % 256)]
    omega

theorem takeN_append (a b : List Nat) : takeN a.length (a ++ b) = some (a, b) := by simp [takeN]

theorem readBe_be {k n : Nat} (h : n < 256 ^ k) (rest : List Nat) : readBe k (be k n ++ rest) = some (n, rest) := by
  have := takeN_append (be k n) rest
  rw [be_length] at this
  simp [readBe, this, beVal, foldl_be, Nat.mod_eq_of_lt h]

/-! ## … and read from any bytes; the reader as "a header, then the children it announces" -/

theorem takeN_spec {n : Nat} {bs h r : List Nat} (e : takeN n bs = some (h, r)) : h.length = n ∧ bs = h ++ r := by
  unfold takeN at e
  split at e
  · cases e
  · cases e; exact ⟨by simp; omega, (List.take_append_drop n bs).symm⟩

theorem beVal_lt : ∀ (h : List Nat), AllLt 256 h → ∀ acc, h.foldl (fun a b => a * 256 + b) acc < (acc + 1) * 256 ^ h.length
  | [], _, acc => by simp
  | x :: xs, hl, acc => by
    obtain ⟨hx, hxs⟩ := allLt_cons.mp hl
    have ih := beVal_lt xs hxs (acc * 256 + x)
    have : (acc * 256 + x + 1) * 256 ^ xs.length ≤ ((acc + 1) * 256) * 256 ^ xs.length :=
      Nat.mul_le_mul_right _ (by omega)
    simp only [List.foldl_cons, List.length_cons]
    rw [Nat.pow_succ, Nat.mul_comm (256 ^ xs.length) 256, ← Nat.mul_assoc]
    omega

theorem readBe_spec {k m n : Nat} {bs r : List Nat} (e : readBe k bs = some (n, r)) (hk : k ≤ m) :
    (∃ pre, bs = pre ++ r) ∧ (AllLt 256 bs → n < 256 ^ m) := by
  unfold readBe at e
  split at e
  · next h r' ht =>
    cases e
    obtain ⟨hl, rfl⟩ := takeN_spec ht
    refine ⟨⟨h, rfl⟩, fun hb => Nat.lt_of_lt_of_le ?_ (Nat.pow_le_pow_right (by decide) hk)⟩
    simpa [beVal, hl] using beVal_lt h (allLt_append.mp hb).1 0
  · cases e

theorem readRun_spec {k m : Nat} {bs s r : List Nat} (e : readRun k bs = some (s, r)) (hk : k ≤ m) :
    (∃ pre, bs = pre ++ r) ∧ (AllLt 256 bs → s.length < 256 ^ m) := by
  unfold readRun at e
  split at e
  · next n r' hr =>
    obtain ⟨⟨pre, rfl⟩, hn⟩ := readBe_spec hr hk
    obtain ⟨hs, rfl⟩ := takeN_spec e
    exact ⟨⟨pre ++ s, by simp⟩, fun hb => hs ▸ hn hb⟩
  · cases e

mutual
/-- what the writer can write: integers of `i64 ∪ u64`, lengths that fit `u32`, maps as key / value pairs -/
def MV.WF : MV → Prop
  | .int i => -(9223372036854775808 : Int) ≤ i ∧ i < 18446744073709551616
  | .str bs => bs.length < 4294967296
  | .bin bs => bs.length < 4294967296
  | .arr xs => xs.length < 4294967296 ∧ WFs xs
  | .map kvs => kvs.length % 2 = 0 ∧ kvs.length / 2 < 4294967296 ∧ WFs kvs
  | _ => True
def WFs : List MV → Prop
  | [] => True
  | x :: xs => x.WF ∧ WFs xs
end

mutual
/-- a recursion bound that suffices for reading a value: one for the value, and for each child one more than the child needs -/
def sz : MV → Nat
  | .arr xs => 1 + szs xs
  | .map kvs => 1 + szs kvs
  | _ => 1
def szs : List MV → Nat
  | [] => 0
  | x :: xs => 1 + sz x + szs xs
end

theorem sz_pos (v : MV) : 1 ≤ sz v := by cases v <;> simp [sz] <;> omega

theorem two_length_le_szs : ∀ xs : List MV, 2 * xs.length ≤ szs xs
  | [] => Nat.le_refl _
  | x :: xs => by have := sz_pos x; have := two_length_le_szs xs; simp only [szs, List.length_cons]; omega

/-- a value without its children: what the leading byte, with the length or number behind it, announces -/
inductive Hd where
  | nil | bool (b : Bool) | int (i : Int) | str (s : List Nat) | bin (s : List Nat)
  | arr (n : Nat)     -- `n` values follow
  | map (n : Nat)     -- `n` pairs follow

def Hd.children : Hd → Nat
  | .arr n => n
  | .map n => 2 * n
  | _ => 0

def Hd.mk : Hd → List MV → MV
  | .nil, _ => .nil
  | .bool b, _ => .bool b
  | .int i, _ => .int i
  | .str s, _ => .str s
  | .bin s, _ => .bin s
  | .arr _, xs => .arr xs
  | .map _, xs => .map xs

/-- what `MV.WF` asks of the value itself -/
def Hd.WF : Hd → Prop
  | .arr n | .map n => n < 4294967296
  | h => (h.mk []).WF

theorem Hd.mk_wf {h : Hd} {xs : List MV} (hw : h.WF) (hl : xs.length = h.children) (hx : WFs xs) : (h.mk xs).WF := by
  cases h with
  | arr n => exact ⟨hl ▸ hw, hx⟩
  | map n => have : xs.length = 2 * n := hl; have : n < 4294967296 := hw; exact ⟨by omega, by omega, hx⟩
  | _ => exact hw

theorem Hd.sz_mk {h : Hd} {xs : List MV} (hl : xs.length = h.children) : sz (h.mk xs) = 1 + szs xs := by
  cases h <;> simp only [Hd.mk, sz, Hd.children, List.length_eq_zero_iff] at * <;> simp [hl, szs]

/-- what the markers `0xc0 … 0xdf` that are in use announce -/
inductive Kind where
  | nil | bool (b : Bool) | bin | uint | sint | str | arr | map

/-- the format table: the kind of value a marker announces and the number of bytes of its length or number -/
def marker (b : Nat) : Option (Kind × Nat) :=
  if b = 0xc0 then some (.nil, 0) else if b = 0xc2 then some (.bool false, 0) else if b = 0xc3 then some (.bool true, 0)
  else if b = 0xc4 then some (.bin, 1) else if b = 0xc5 then some (.bin, 2) else if b = 0xc6 then some (.bin, 4)
  else if b = 0xcc then some (.uint, 1) else if b = 0xcd then some (.uint, 2)
  else if b = 0xce then some (.uint, 4) else if b = 0xcf then some (.uint, 8)
  else if b = 0xd0 then some (.sint, 1) else if b = 0xd1 then some (.sint, 2)
  else if b = 0xd2 then some (.sint, 4) else if b = 0xd3 then some (.sint, 8)
  else if b = 0xd9 then some (.str, 1) else if b = 0xda then some (.str, 2) else if b = 0xdb then some (.str, 4)
  else if b = 0xdc then some (.arr, 2) else if b = 0xdd then some (.arr, 4)
  else if b = 0xde then some (.map, 2) else if b = 0xdf then some (.map, 4)
  else none         -- 0xc1 (never used), floats, extension types

/-- numbers come in up to 8 bytes, lengths in up to 4 -/
def Kind.width : Kind → Nat
  | .uint | .sint => 8
  | _ => 4

theorem marker_spec {b k : Nat} {kd : Kind} (h : marker b = some (kd, k)) : 0xc0 ≤ b ∧ b < 0xe0 ∧ k ≤ kd.width := by
  revert h
  fun_cases marker b <;> rintro ⟨⟩ <;> simp [*, Kind.width]

theorem marker_none {b : Nat} (h : 0xe0 ≤ b) : marker b = none :=
  Option.eq_none_iff_forall_ne_some.mpr fun _ hm => by have := marker_spec hm; omega

/-- what follows a leading byte from `0xc0` on, read as its entry in the format table says; the bytes from `0xe0` on, which
have no entry, are the small negative numbers -/
def markerHdr (b : Nat) (rest : List Nat) : Option (Kind × Nat) → Option (Hd × List Nat)
  | some (.nil, _) => some (.nil, rest)
  | some (.bool v, _) => some (.bool v, rest)
  | some (.bin, k) => (readRun k rest).map fun (s, r) => (.bin s, r)
  | some (.str, k) => (readRun k rest).map fun (s, r) => (.str s, r)
  | some (.uint, k) => (readBe k rest).map fun (n, r) => (.int n, r)
  | some (.sint, k) => (readBe k rest).map fun (n, r) => (.int (sgn k n), r)
  | some (.arr, k) => (readBe k rest).map fun (n, r) => (.arr n, r)
  | some (.map, k) => (readBe k rest).map fun (n, r) => (.map n, r)
  | none => if 0xe0 ≤ b ∧ b < 0x100 then some (.int ((b : Int) - 256), rest) else none

/-- the header at the front of the bytes and what follows it: `dec` without the recursion -/
def hdr : List Nat → Option (Hd × List Nat)
  | [] => none
  | b :: rest =>
    if b < 0x80 then some (.int b, rest)
    else if b < 0x90 then some (.map (b - 0x80), rest)
    else if b < 0xa0 then some (.arr (b - 0x90), rest)
    else if b < 0xc0 then (takeN (b - 0xa0) rest).map fun (s, r) => (.str s, r)
    else markerHdr b rest (marker b)

/-- two chains of `if`s on the same conditions, one of them under `F`, are compared branch by branch -/
theorem ite_eq_apply_ite {α β : Sort _} (F : β → α) {c : Prop} [Decidable c] {a a' : α} {m m' : β} (h : a = F m)
    (h' : a' = F m') : (if c then a else a') = F (if c then m else m') := by
  split
  · exact h
  · exact h'

theorem dec_succ (f : Nat) (bs : List Nat) :
    dec (f + 1) bs = (hdr bs).bind fun (h, r) =>
      match decN f h.children r with
      | some (xs, r') => some (h.mk xs, r')
      | none => none := by
  cases bs with
  | nil => rfl
  | cons b rest =>
    -- `dec` and `hdr`, with the table unfolded, ask the same questions about `b` in the same order. The two chains are
    -- walked together; at each answer the two sides are compared for what the reader called there returns. A value
    -- without children reads none, by `decN f 0`, which computes only once `f` is `0` or a successor: hence `cases f`.
    simp only [dec, hdr, marker]
    refine ite_eq_apply_ite (Option.bind · _) ?_ ?_
    · cases f <;> rfl
    iterate 2
      refine ite_eq_apply_ite (Option.bind · _) ?_ ?_
      · simp only [Option.bind_some, Hd.children]; cases decN f _ rest <;> rfl
    refine ite_eq_apply_ite (Option.bind · _) ?_ ?_
    · cases takeN _ rest <;> cases f <;> rfl
    -- the markers, in the order of `dec` and of the table: nil and the booleans, bin, uint and sint, str, arr and map
    iterate 3
      refine ite_eq_apply_ite (fun m => (markerHdr b rest m).bind _) ?_ ?_
      · cases f <;> rfl
    iterate 3
      refine ite_eq_apply_ite (fun m => (markerHdr b rest m).bind _) ?_ ?_
      · dsimp only [markerHdr]; cases readRun _ rest <;> cases f <;> rfl
    iterate 8
      refine ite_eq_apply_ite (fun m => (markerHdr b rest m).bind _) ?_ ?_
      · dsimp only [markerHdr]; cases readBe _ rest <;> cases f <;> rfl
    iterate 3
      refine ite_eq_apply_ite (fun m => (markerHdr b rest m).bind _) ?_ ?_
      · dsimp only [markerHdr]; cases readRun _ rest <;> cases f <;> rfl
    iterate 4
      refine ite_eq_apply_ite (fun m => (markerHdr b rest m).bind _) ?_ ?_
      · dsimp only [markerHdr]; cases readBe _ rest <;> rfl
    refine ite_eq_apply_ite (Option.bind · _) ?_ rfl
    cases f <;> rfl

theorem decN_zero (f : Nat) (bs : List Nat) : decN f 0 bs = some ([], bs) := by cases f <;> rfl

theorem decN_succ (f n : Nat) (bs : List Nat) :
    decN (f + 1) (n + 1) bs = (dec f bs).bind fun (x, r) => (decN f n r).map fun (xs, r') => (x :: xs, r') := by
  simp only [decN]
  cases dec f bs with
  | none => rfl
  | some p => cases h : decN f n p.2 <;> simp [h]

theorem sgn_range {k n : Nat} (hk : k ≤ 8) (h : n < 256 ^ k) :
    -(9223372036854775808 : Int) ≤ sgn k n ∧ sgn k n < 18446744073709551616 := by
  have : 256 ^ k ≤ 18446744073709551616 := Nat.pow_le_pow_right (by decide) hk
  unfold sgn
  split <;> omega

theorem markerHdr_spec {b k : Nat} {kd : Kind} {rest r : List Nat} {h : Hd} (hk : k ≤ kd.width)
    (e : markerHdr b rest (some (kd, k)) = some (h, r)) : (∃ pre, rest = pre ++ r) ∧ (AllLt 256 rest → h.WF) := by
  cases kd <;> simp only [markerHdr, Option.map_eq_some_iff, Prod.exists, Prod.mk.injEq, Option.some.injEq] at e
  case nil => obtain ⟨rfl, rfl⟩ := e; exact ⟨⟨[], rfl⟩, fun _ => trivial⟩
  case bool => obtain ⟨rfl, rfl⟩ := e; exact ⟨⟨[], rfl⟩, fun _ => trivial⟩
  case bin => obtain ⟨s, r', hr, rfl, rfl⟩ := e; exact readRun_spec hr hk
  case str => obtain ⟨s, r', hr, rfl, rfl⟩ := e; exact readRun_spec hr hk
  case arr => obtain ⟨n, r', hr, rfl, rfl⟩ := e; exact readBe_spec hr hk
  case map => obtain ⟨n, r', hr, rfl, rfl⟩ := e; exact readBe_spec hr hk
  case uint =>
    obtain ⟨n, r', hr, rfl, rfl⟩ := e
    exact (readBe_spec hr (m := 8) hk).imp id fun h hb => by have := h hb; simp only [Hd.WF, Hd.mk, MV.WF]; omega
  case sint =>
    obtain ⟨n, r', hr, rfl, rfl⟩ := e
    exact (readBe_spec hr (Nat.le_refl k)).imp id fun h hb => sgn_range hk (h hb)

theorem hdr_spec {bs r : List Nat} {h : Hd} (e : hdr bs = some (h, r)) :
    (∃ pre, bs = pre ++ r ∧ 1 ≤ pre.length) ∧ (AllLt 256 bs → h.WF) := by
  cases bs with
  | nil => cases e
  | cons b rest =>
    suffices (∃ pre, rest = pre ++ r) ∧ (AllLt 256 rest → h.WF) by
      obtain ⟨⟨pre, rfl⟩, hw⟩ := this
      exact ⟨⟨b :: pre, rfl, by simp⟩, fun hb => hw (allLt_cons.mp hb).2⟩
    simp only [hdr] at e
    iterate 3
      split at e
      · cases e; exact ⟨⟨[], rfl⟩, fun _ => by simp only [Hd.WF, Hd.mk, MV.WF]; omega⟩
    split at e
    · obtain ⟨⟨s, r'⟩, ht, e⟩ := Option.map_eq_some_iff.mp e
      cases e
      obtain ⟨hl, rfl⟩ := takeN_spec ht
      exact ⟨⟨s, rfl⟩, fun _ => by simp only [Hd.WF, Hd.mk, MV.WF]; omega⟩
    cases hm : marker b with
    | some p => exact markerHdr_spec (marker_spec hm).2.2 (hm ▸ e)
    | none =>
      simp only [hm, markerHdr] at e
      split at e <;> cases e
      exact ⟨⟨[], rfl⟩, fun _ => by simp only [Hd.WF, Hd.mk, MV.WF]; omega⟩

theorem decN_length : ∀ {n f : Nat} {bs r : List Nat} {xs : List MV}, decN f n bs = some (xs, r) → xs.length = n
  | 0, _, _, _, _, h => by rw [decN_zero] at h; cases h; rfl
  | n + 1, 0, _, _, _, h => by simp [decN] at h
  | n + 1, f + 1, bs, _, _, h => by
    rw [decN_succ] at h
    obtain ⟨⟨x, r1⟩, _, h⟩ := Option.bind_eq_some_iff.mp h
    obtain ⟨⟨xs, r2⟩, h', h⟩ := Option.map_eq_some_iff.mp h
    cases h
    simp [decN_length h']

/-- **induction over successful reads**: a value is a header followed by the children it announces, and children are
read one after the other -/
theorem dec_decN_ind {P : Nat → List Nat → MV → List Nat → Prop} {Q : Nat → Nat → List Nat → List MV → List Nat → Prop}
    (node : ∀ f bs h r xs r', hdr bs = some (h, r) → xs.length = h.children → Q f h.children r xs r' →
      P (f + 1) bs (h.mk xs) r')
    (nil : ∀ f bs, Q f 0 bs [] bs)
    (cons : ∀ f n bs x r xs r', P f bs x r → Q f n r xs r' → Q (f + 1) (n + 1) bs (x :: xs) r') :
    ∀ f, (∀ bs v r, dec f bs = some (v, r) → P f bs v r) ∧ (∀ n bs xs r, decN f n bs = some (xs, r) → Q f n bs xs r)
  | 0 => ⟨fun _ _ _ h => by simp [dec] at h, fun n bs xs r h => by
      cases n with
      | zero => rw [decN_zero] at h; cases h; exact nil 0 bs
      | succ n => simp [decN] at h⟩
  | f + 1 => by
    obtain ⟨ihd, ihn⟩ := dec_decN_ind node nil cons f
    refine ⟨fun bs v r h => ?_, fun n bs xs r h => ?_⟩
    · rw [dec_succ] at h
      obtain ⟨⟨hd, r0⟩, e, h⟩ := Option.bind_eq_some_iff.mp h
      dsimp only at h
      split at h
      · next xs r' e' => cases h; exact node f bs hd r0 xs r e (decN_length e') (ihn _ _ _ _ e')
      · cases h
    · cases n with
      | zero => rw [decN_zero] at h; cases h; exact nil _ bs
      | succ n =>
        rw [decN_succ] at h
        obtain ⟨⟨x, r1⟩, e, h⟩ := Option.bind_eq_some_iff.mp h
        obtain ⟨⟨ys, r2⟩, e', h⟩ := Option.map_eq_some_iff.mp h
        cases h
        exact cons f n bs x r1 ys r (ihd _ _ _ e) (ihn _ _ _ _ e')

/-! ## the headers the writer writes are read as themselves -/

/-- `generalizing := false`: the `match` is a term of the statement and must not abstract `hm` -/
theorem hdr_marker {m k n : Nat} {kd : Kind} (hm : marker m = some (kd, k)) (hn : n < 256 ^ k) (rest : List Nat) :
    hdr (m :: (be k n ++ rest)) = match (generalizing := false) kd with
      | .uint => some (.int n, rest)
      | .sint => some (.int (sgn k n), rest)
      | .arr => some (.arr n, rest)
      | .map => some (.map n, rest)
      | .bin => (takeN n rest).map fun (s, r) => (.bin s, r)
      | .str => (takeN n rest).map fun (s, r) => (.str s, r)
      | .nil => some (.nil, be k n ++ rest)
      | .bool v => some (.bool v, be k n ++ rest) := by
  have := marker_spec hm
  simp only [hdr, hm]
  repeat rw [if_neg (by omega)]
  cases kd <;> simp [markerHdr, readRun, readBe_be hn]

theorem hdr_sint {m k : Nat} {P i : Int} (hm : marker m = some (.sint, k)) (hP : ((256 ^ k : Nat) : Int) = P)
    (h1 : -(P / 2) ≤ i) (h2 : i < 0) (rest : List Nat) : hdr (m :: (be k (P + i).toNat ++ rest)) = some (.int i, rest) := by
  subst hP
  have : sgn k ((256 ^ k : Nat) + i).toNat = i := by unfold sgn; split <;> omega
  exact (hdr_marker hm (by omega) rest).trans (by rw [this])

theorem hdr_encInt {i : Int} (h1 : -(9223372036854775808 : Int) ≤ i) (h2 : i < 18446744073709551616) (rest : List Nat) :
    hdr (encInt i ++ rest) = some (.int i, rest) := by
  have hi := @Int.toNat_of_nonneg i
  fun_cases encInt i
  · rw [← hi ‹_›]; exact if_pos ‹_ < 128›
  · rw [← hi ‹_›]; exact hdr_marker (m := 0xcc) rfl (by assumption) rest
  · rw [← hi ‹_›]; exact hdr_marker (m := 0xcd) rfl (by assumption) rest
  · rw [← hi ‹_›]; exact hdr_marker (m := 0xce) rfl (by assumption) rest
  · rw [← hi ‹_›]; exact hdr_marker (m := 0xcf) rfl (by omega) rest
  · obtain ⟨b, rfl⟩ : ∃ b : Nat, i = b - 256 := ⟨(256 + i).toNat, by omega⟩
    rw [show (256 + (b - 256 : Int)).toNat = b by omega]
    simp only [hdr, List.cons_append, List.nil_append, marker_none (b := b) (by omega), markerHdr]
    repeat rw [if_neg (by omega)]
    rw [if_pos (by omega)]
  · exact hdr_sint (m := 0xd0) (P := 256) rfl rfl (by omega) (by omega) rest
  · exact hdr_sint (m := 0xd1) (P := 65536) rfl rfl (by omega) (by omega) rest
  · exact hdr_sint (m := 0xd2) (P := 4294967296) rfl rfl (by omega) (by omega) rest
  · exact hdr_sint (m := 0xd3) (P := 18446744073709551616) rfl rfl (by omega) (by omega) rest

theorem hdr_strHdr {s : List Nat} (h : s.length < 4294967296) (rest : List Nat) :
    hdr (strHdr s.length ++ (s ++ rest)) = some (.str s, rest) := by
  have ht : (takeN s.length (s ++ rest)).map (fun (s, r) => (Hd.str s, r)) = some (.str s, rest) := by rw [takeN_append]; rfl
  generalize s.length = n at h ht
  fun_cases strHdr n
  · simp only [hdr, List.cons_append, List.nil_append]
    repeat rw [if_neg (by omega)]
    rw [if_pos (by omega), Nat.add_sub_cancel_left, ht]
  · exact (hdr_marker (m := 0xd9) rfl (by assumption) (s ++ rest)).trans ht
  · exact (hdr_marker (m := 0xda) rfl (by assumption) (s ++ rest)).trans ht
  · exact (hdr_marker (m := 0xdb) rfl h (s ++ rest)).trans ht

theorem hdr_binHdr {s : List Nat} (h : s.length < 4294967296) (rest : List Nat) :
    hdr (binHdr s.length ++ (s ++ rest)) = some (.bin s, rest) := by
  have ht : (takeN s.length (s ++ rest)).map (fun (s, r) => (Hd.bin s, r)) = some (.bin s, rest) := by rw [takeN_append]; rfl
  generalize s.length = n at h ht
  fun_cases binHdr n
  · exact (hdr_marker (m := 0xc4) rfl (by assumption) (s ++ rest)).trans ht
  · exact (hdr_marker (m := 0xc5) rfl (by assumption) (s ++ rest)).trans ht
  · exact (hdr_marker (m := 0xc6) rfl h (s ++ rest)).trans ht

theorem hdr_arrHdr {n : Nat} (h : n < 4294967296) (rest : List Nat) : hdr (arrHdr n ++ rest) = some (.arr n, rest) := by
  fun_cases arrHdr n
  · simp only [hdr, List.cons_append, List.nil_append]
    repeat rw [if_neg (by omega)]
    rw [if_pos (by omega), Nat.add_sub_cancel_left]
  · exact hdr_marker (m := 0xdc) rfl (by assumption) rest
  · exact hdr_marker (m := 0xdd) rfl h rest

theorem hdr_mapHdr {n : Nat} (h : n < 4294967296) (rest : List Nat) : hdr (mapHdr n ++ rest) = some (.map n, rest) := by
  fun_cases mapHdr n
  · simp only [hdr, List.cons_append, List.nil_append]
    repeat rw [if_neg (by omega)]
    rw [if_pos (by omega), Nat.add_sub_cancel_left]
  · exact hdr_marker (m := 0xde) rfl (by assumption) rest
  · exact hdr_marker (m := 0xdf) rfl h rest

theorem dec_of_hdr {f : Nat} {bs r r' : List Nat} {h : Hd} {xs : List MV} (e : hdr bs = some (h, r))
    (e' : decN f h.children r = some (xs, r')) : dec (f + 1) bs = some (h.mk xs, r') := by
  simp [dec_succ, e, e']

mutual
theorem dec_enc : ∀ (v : MV) (f : Nat) (rest : List Nat), v.WF → sz v ≤ f → dec f (enc v ++ rest) = some (v, rest)
  | v, 0, _, _, hf => absurd hf (by have := sz_pos v; omega)
  | .nil, f + 1, rest, _, _ => dec_of_hdr (h := .nil) rfl (decN_zero _ _)
  | .bool false, f + 1, rest, _, _ => dec_of_hdr (h := .bool false) rfl (decN_zero _ _)
  | .bool true, f + 1, rest, _, _ => dec_of_hdr (h := .bool true) rfl (decN_zero _ _)
  | .int i, f + 1, rest, hw, _ => dec_of_hdr (h := .int i) (hdr_encInt hw.1 hw.2 rest) (decN_zero _ _)
  | .str s, f + 1, rest, hw, _ => by
    rw [enc, List.append_assoc]; exact dec_of_hdr (h := .str s) (hdr_strHdr hw rest) (decN_zero _ _)
  | .bin s, f + 1, rest, hw, _ => by
    rw [enc, List.append_assoc]; exact dec_of_hdr (h := .bin s) (hdr_binHdr hw rest) (decN_zero _ _)
  | .arr xs, f + 1, rest, hw, hf => by
    rw [enc, List.append_assoc]
    exact dec_of_hdr (hdr_arrHdr hw.1 _) (decN_encs xs f rest hw.2 (by simp only [sz] at hf; omega))
  | .map kvs, f + 1, rest, hw, hf => by
    rw [enc, List.append_assoc]
    refine dec_of_hdr (hdr_mapHdr hw.2.1 _) ?_
    rw [Hd.children, show 2 * (kvs.length / 2) = kvs.length by have := hw.1; omega]
    exact decN_encs kvs f rest hw.2.2 (by simp only [sz] at hf; omega)
theorem decN_encs : ∀ (xs : List MV) (f : Nat) (rest : List Nat), WFs xs → szs xs ≤ f →
    decN f xs.length (encs xs ++ rest) = some (xs, rest)
  | [], f, rest, _, _ => by simp [encs, decN]
  | x :: xs, 0, _, _, hf => by simp [szs] at hf
  | x :: xs, f + 1, rest, hw, hf => by
    simp only [szs] at hf
    rw [encs, List.length_cons, decN_succ, List.append_assoc, dec_enc x f _ hw.1 (by omega)]
    simp [decN_encs xs f rest hw.2 (by omega)]
end

theorem dec_decN_wf (f : Nat) :
    (∀ bs v r, dec f bs = some (v, r) → AllLt 256 bs → v.WF ∧ AllLt 256 r) ∧
    (∀ n bs xs r, decN f n bs = some (xs, r) → AllLt 256 bs → WFs xs ∧ AllLt 256 r) :=
  dec_decN_ind (P := fun _ bs v r => AllLt 256 bs → v.WF ∧ AllLt 256 r)
    (Q := fun _ _ bs xs r => AllLt 256 bs → WFs xs ∧ AllLt 256 r)
    (fun f bs h r xs r' e hl ih hb => by
      obtain ⟨⟨pre, rfl, _⟩, hw⟩ := hdr_spec e
      obtain ⟨hx, hr⟩ := ih (allLt_append.mp hb).2
      exact ⟨Hd.mk_wf (hw hb) hl hx, hr⟩)
    (fun _ bs hb => ⟨trivial, hb⟩)
    (fun f n bs x r xs r' ihx ihxs hb => by
      obtain ⟨hx, hr⟩ := ihx hb
      obtain ⟨hxs, hr'⟩ := ihxs hr
      exact ⟨⟨hx, hxs⟩, hr'⟩) f

theorem dec_decN_consumed (f : Nat) :
    (∀ bs v r, dec f bs = some (v, r) → ∃ pre, bs = pre ++ r ∧ sz v + 1 ≤ 2 * pre.length) ∧
    (∀ n bs xs r, decN f n bs = some (xs, r) → ∃ pre, bs = pre ++ r ∧ szs xs ≤ 2 * pre.length) :=
  dec_decN_ind (P := fun _ bs v r => ∃ pre, bs = pre ++ r ∧ sz v + 1 ≤ 2 * pre.length)
    (Q := fun _ _ bs xs r => ∃ pre, bs = pre ++ r ∧ szs xs ≤ 2 * pre.length)
    (fun f bs h r xs r' e hl ih => by
      obtain ⟨⟨p, rfl, _⟩, _⟩ := hdr_spec e
      obtain ⟨q, rfl, _⟩ := ih
      exact ⟨p ++ q, by simp, by rw [Hd.sz_mk hl, List.length_append]; omega⟩)
    (fun _ bs => ⟨[], rfl, Nat.le_refl _⟩)
    (fun f n bs x r xs r' ihx ihxs => by
      obtain ⟨p, rfl, _⟩ := ihx
      obtain ⟨q, rfl, _⟩ := ihxs
      exact ⟨p ++ q, by simp, by rw [szs, List.length_append]; omega⟩) f

theorem dec_decN_bound (f : Nat) :
    (∀ bs v r, dec f bs = some (v, r) → ∀ g, f ≤ g ∨ sz v ≤ g → dec g bs = some (v, r)) ∧
    (∀ n bs xs r, decN f n bs = some (xs, r) → ∀ g, f ≤ g ∨ szs xs ≤ g → decN g n bs = some (xs, r)) :=
  dec_decN_ind (P := fun f bs v r => ∀ g, f ≤ g ∨ sz v ≤ g → dec g bs = some (v, r))
    (Q := fun f n bs xs r => ∀ g, f ≤ g ∨ szs xs ≤ g → decN g n bs = some (xs, r))
    (fun f bs h r xs r' e hl ih g hg => by
      rw [Hd.sz_mk hl] at hg
      obtain ⟨g, rfl⟩ : ∃ g', g = g' + 1 := ⟨g - 1, by omega⟩
      exact dec_of_hdr e (ih g (by omega)))
    (fun _ bs g _ => by simp [decN])
    (fun f n bs x r xs r' ihx ihxs g hg => by
      rw [szs] at hg
      obtain ⟨g, rfl⟩ : ∃ g', g = g' + 1 := ⟨g - 1, by omega⟩
      simp [decN_succ, ihx g (by omega), ihxs g (by omega)]) f

/-! ## what the writer writes: at least one byte per header, and bytes -/

theorem encInt_length_pos (i : Int) : 1 ≤ (encInt i).length := by fun_cases encInt i <;> simp
theorem strHdr_length_pos (n : Nat) : 1 ≤ (strHdr n).length := by fun_cases strHdr n <;> simp
theorem binHdr_length_pos (n : Nat) : 1 ≤ (binHdr n).length := by fun_cases binHdr n <;> simp
theorem arrHdr_length_pos (n : Nat) : 1 ≤ (arrHdr n).length := by fun_cases arrHdr n <;> simp
theorem mapHdr_length_pos (n : Nat) : 1 ≤ (mapHdr n).length := by fun_cases mapHdr n <;> simp

mutual
theorem sz_le : ∀ v : MV, sz v + 1 ≤ 2 * (enc v).length
  | .nil => by simp [sz, enc]
  | .bool false => by simp [sz, enc]
  | .bool true => by simp [sz, enc]
  | .int i => by have := encInt_length_pos i; simp only [sz, enc]; omega
  | .str bs => by have := strHdr_length_pos bs.length; simp only [sz, enc, List.length_append]; omega
  | .bin bs => by have := binHdr_length_pos bs.length; simp only [sz, enc, List.length_append]; omega
  | .arr xs => by
    have := arrHdr_length_pos xs.length; have := szs_le xs
    simp only [sz, enc, List.length_append]; omega
  | .map kvs => by
    have := mapHdr_length_pos (kvs.length / 2); have := szs_le kvs
    simp only [sz, enc, List.length_append]; omega
theorem szs_le : ∀ xs : List MV, szs xs ≤ 2 * (encs xs).length
  | [] => by simp [szs]
  | x :: xs => by
    have := sz_le x; have := szs_le xs
    simp only [szs, encs, List.length_append]; omega
end

theorem encInt_lt (i : Int) : AllLt 256 (encInt i) := by fun_cases encInt i <;> simp [be_lt] <;> omega
theorem strHdr_lt (n : Nat) : AllLt 256 (strHdr n) := by fun_cases strHdr n <;> simp [be_lt]; omega
theorem binHdr_lt (n : Nat) : AllLt 256 (binHdr n) := by fun_cases binHdr n <;> simp [be_lt]
theorem arrHdr_lt (n : Nat) : AllLt 256 (arrHdr n) := by fun_cases arrHdr n <;> simp [be_lt]; omega
theorem mapHdr_lt (n : Nat) : AllLt 256 (mapHdr n) := by fun_cases mapHdr n <;> simp [be_lt]; omega

mutual
def MV.Bytes : MV → Prop
  | .str bs => AllLt 256 bs
  | .bin bs => AllLt 256 bs
  | .arr xs => Bytess xs
  | .map kvs => Bytess kvs
  | _ => True
def Bytess : List MV → Prop
  | [] => True
  | x :: xs => x.Bytes ∧ Bytess xs
end

mutual
theorem enc_lt : ∀ v : MV, v.Bytes → AllLt 256 (enc v)
  | .nil, _ => by simp [enc]
  | .bool false, _ => by simp [enc]
  | .bool true, _ => by simp [enc]
  | .int i, _ => encInt_lt i
  | .str bs, hb => allLt_append.mpr ⟨strHdr_lt _, hb⟩
  | .bin bs, hb => allLt_append.mpr ⟨binHdr_lt _, hb⟩
  | .arr xs, hb => allLt_append.mpr ⟨arrHdr_lt _, encs_bytes xs hb⟩
  | .map kvs, hb => allLt_append.mpr ⟨mapHdr_lt _, encs_bytes kvs hb⟩
theorem encs_bytes : ∀ xs : List MV, Bytess xs → AllLt 256 (encs xs)
  | [], _ => allLt_nil _
  | x :: xs, hb => allLt_append.mpr ⟨enc_lt x hb.1, encs_bytes xs hb.2⟩
end

theorem encs_lt : ∀ xs : List MV, WFs xs → Bytess xs → AllLt 256 (encs xs) := fun xs _ => encs_bytes xs

theorem members_length (fields : List (List Nat × MV)) : (members fields).length = 2 * fields.length := by
  induction fields with
  | nil => rfl
  | cons f r ih => obtain ⟨k, v⟩ := f; simp only [members, List.length_cons, ih]; omega

theorem field_members : ∀ (fields : List (List Nat × MV)) (k : List Nat) (v : MV),
    (fields.map (·.1)).Nodup → (k, v) ∈ fields → field k (members fields) = some v
  | [], _, _, _, h => by cases h
  | (k', v') :: r, k, v, hn, hm => by
    simp only [List.map_cons, List.nodup_cons] at hn
    simp only [members, field]
    rcases List.mem_cons.mp hm with h | h
    · cases h; simp
    · have hne : k' ≠ k := by
        intro e; subst e
        exact hn.1 (List.mem_map.mpr ⟨(k', v), h, rfl⟩)
      rw [if_neg hne]
      exact field_members r k v hn.2 h

theorem field_absent : ∀ (fields : List (List Nat × MV)) (k : List Nat),
    k ∉ fields.map (·.1) → field k (members fields) = none
  | [], _, _ => rfl
  | (k', v') :: r, k, h => by
    simp only [List.map_cons, List.mem_cons, not_or] at h
    simp only [members, field]
    rw [if_neg (fun e => h.1 e.symm)]
    exact field_absent r k h.2

theorem structMV_wf (fields : List (List Nat × MV)) (hn : fields.length < 4294967296)
    (hk : ∀ f ∈ fields, f.1.length < 4294967296) (hv : ∀ f ∈ fields, f.2.WF) : (structMV fields).WF := by
  have hw : WFs (members fields) := by
    induction fields with
    | nil => simp [members, WFs]
    | cons f r ih =>
      obtain ⟨k, v⟩ := f
      simp only [members, WFs, MV.WF]
      refine ⟨hk (k, v) (by simp), hv (k, v) (by simp), ?_⟩
      exact ih (by simp at hn; omega) (fun f hf => hk f (by simp [hf])) (fun f hf => hv f (by simp [hf]))
  simp only [structMV, MV.WF, members_length]
  exact ⟨by omega, by omega, hw⟩

theorem itemOf_payload {p : MV} {j : Nat} (h : payloadKind p = some j) : itemOf p = .payload j := by
  cases p with
  | map kvs => simp only [itemOf, h]
  | _ => simp [payloadKind] at h

theorem payloadKind_range {p : MV} {j : Nat} (h : payloadKind p = some j) : j = 1 ∨ j = 2 ∨ j = 3 := by
  revert h
  fun_cases payloadKind p <;> rintro ⟨⟩ <;> simp

end AnonModel.Msgpack
