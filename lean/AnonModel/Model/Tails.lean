import AnonModel.Model.Sha256
/-!
# M7 — tails file: layout, reader offsets, base58 name, writer as a fault machine

Models `/repo/src/services/tails.rs`:
* `TailsFileWriter::write` — temp file `<20 digits>.tmp` opened with `create_new`, a
  `TempFile` drop guard, `BufWriter`, the version tag `[0,2]`, every tail's bytes,
  `into_inner` (flush), `stream_position`, `hash = base58(sha256(all bytes))`,
  `drop(file)`, `rename(temp, root/hash)`; every `?` runs the guard's `Drop`
  (`remove_file(temp)`), also when `rename` itself fails (the guard is forgotten only
  after a successful rename);
* `TailsFileReader::read` / `access_tail` — `seek(TAIL_SIZE * k + TAILS_BLOB_TAG_SZ)`
  then `read_exact(TAIL_SIZE)`;
* `utils/base58.rs: encode` = `bs58::encode(..).into_string()` (`bs58-0.5.1
  encode.rs: encode_into`, Bitcoin alphabet).

Constants: `TAILS_BLOB_TAG_SZ = 2`; `TAIL_SIZE = Tail::BYTES_REPR_SIZE =
PointG2::BYTES_REPR_SIZE = MODBYTES * 4 = 128` (`anoncreds-clsignatures-0.3.2 amcl.rs`,
`amcl-0.2.0 rom_bn254_64.rs: MODBYTES = 32`). The tail size is a parameter of the reader
model (`size`); nothing in the writer depends on it.

Not exhibited by this model (assumptions, see `Props/C19.lean`): durability across power
loss (the code never calls `fsync`), the atomicity of `rename(2)`, and that the
streaming `Sha256::update` calls hash the concatenation of their inputs.
-/
namespace AnonModel.Tails

/-- `TAIL_SIZE` of `services/tails.rs` (128 for BN254) -/
def TAIL_SIZE : Nat := 128

/-- `TAILS_BLOB_TAG_SZ` of `services/tails.rs` -/
def TAG_SZ : Nat := 2

/-- the version tag written first: `let version = &[0u8, 2u8]` -/
def versionTag : List UInt8 := [0, 2]

/-- all bytes `TailsFileWriter::write` hands to the file, in order -/
def fileBytes (tails : List (List UInt8)) : List UInt8 := versionTag ++ tails.flatten

/-- the byte range `TailsFileReader::read(size, size * k + 2)` asks for (what `seek` +
`read` deliver when the file is long enough; shorter when it is not) -/
def readSlice (size : Nat) (bytes : List UInt8) (k : Nat) : List UInt8 :=
  (bytes.drop (TAG_SZ + size * k)).take size

/-- `TailsFileReader::read` as used by `access_tail`: `read_exact` fails (`none`) when
fewer than `size` bytes are available at the offset -/
def readTail (size : Nat) (bytes : List UInt8) (k : Nat) : Option (List UInt8) :=
  let s := readSlice size bytes k
  if s.length = size then some s else none

/-! ### base58 (`bs58::encode`, Bitcoin alphabet) -/

def alphabet : List Char := "123456789ABCDEFGHJKLMNPQRSTUVWXYZabcdefghijkmnopqrstuvwxyz".toList

theorem alphabet_length : alphabet.length = 58 := by decide +kernel

/-- `for byte in &mut output[..index] { carry += byte << 8; *byte = carry % 58; carry /= 58 }`
over the little-endian base-58 digits; returns the new digits and the outgoing carry -/
def mulAdd : List (Fin 58) → Nat → List (Fin 58) × Nat
  | [], carry => ([], carry)
  | d :: ds, carry =>
    let c := carry + d.val * 256
    let r := mulAdd ds (c / 58)
    (⟨c % 58, Nat.mod_lt _ (by decide)⟩ :: r.1, r.2)

/-- `while carry > 0 { output[index] = carry % 58; index += 1; carry /= 58 }` -/
def pushCarry (carry : Nat) : List (Fin 58) :=
  if h : carry = 0 then [] else
    ⟨carry % 58, Nat.mod_lt _ (by decide)⟩ :: pushCarry (carry / 58)
termination_by carry
decreasing_by omega

/-- one iteration of the outer `for &val in input` loop -/
def feedByte (digits : List (Fin 58)) (b : UInt8) : List (Fin 58) :=
  let r := mulAdd digits b.toNat
  r.1 ++ pushCarry r.2

/-- `bs58::encode(bytes).into_string()`: base-58 digits of the big-endian number, one
extra zero digit per leading zero byte, mapped through the alphabet, reversed -/
def base58 (bytes : List UInt8) : String :=
  let digits := bytes.foldl feedByte []
  let zeros : List (Fin 58) := (bytes.takeWhile (· == 0)).map (fun _ => (0 : Fin 58))
  String.ofList ((digits ++ zeros).map (fun d => alphabet[d.val]'(by rw [alphabet_length]; exact d.isLt))).reverse

def toByteArray (bs : List UInt8) : ByteArray := ⟨bs.toArray⟩

/-- SHA-256 of a byte list -/
def sha256 (bs : List UInt8) : List UInt8 := (Sha256.sha256 (toByteArray bs)).toList

/-- `hash` of `TailsFileWriter::write`: file name, `tails_hash`, last component of `tails_location` -/
def fileName (tails : List (List UInt8)) : String := base58 (sha256 (fileBytes tails))

/-- `format!("{:020}.tmp", random::<u64>())` -/
def tempName (r : Nat) : String :=
  let ds := (Nat.repr r).toList
  String.ofList (List.replicate (20 - ds.length) '0' ++ ds ++ ".tmp".toList)

/-! ### abstract directory -/

/-- directory: name ↦ content -/
abbrev Dir := List (String × List UInt8)

def dirGet (d : Dir) (name : String) : Option (List UInt8) := List.lookup name d

/-- remove an entry (`remove_file`) -/
def dirDel (d : Dir) (name : String) : Dir := d.filter (fun e => !(e.1 == name))

/-- create or replace an entry -/
def dirPut (d : Dir) (name : String) (c : List UInt8) : Dir := (name, c) :: dirDel d name

/-- `rename(old, new)`: replaces `new` if it exists; a missing `old` is `ENOENT` (no change) -/
def dirRename (d : Dir) (old new : String) : Dir :=
  match dirGet d old with
  | none => d
  | some c => dirPut (dirDel d old) new c

/-! ### writer machine -/

/-- control points of `TailsFileWriter::write` -/
inductive Pc where
  /-- `File::options().create_new(true).open(temp)` and creation of the guard -/
  | create
  /-- `buf.write_all(version)` -/
  | header
  /-- `generator.try_next()?`, `tail.to_bytes()?`, `buf.write_all(&tail_bytes)?` for tail `i` -/
  | tail (i : Nat)
  /-- `buf.into_inner()` -/
  | flush
  /-- `file.stream_position()?` (the only fallible part) and `drop(file)` -/
  | close
  /-- `temp_handle.rename(&target_path)` -/
  | rename
  deriving DecidableEq, Repr

inductive Outcome where
  /-- the step succeeds -/
  | ok
  /-- the step returns `Err`: the `?` path runs (locals dropped, guard removes the temp file) -/
  | error
  /-- the process stops during this step; nothing else runs -/
  | crash
  deriving DecidableEq, Repr

/-- what the environment decides at one step -/
structure Fault where
  outcome : Outcome
  /-- nondeterminism below the model: for buffered writes, how many of the bytes handed to
  the `BufWriter` so far have reached the file after this step (clamped to what is possible);
  for a crash during `create`/`rename`: `0` = before the system call took effect, else after -/
  written : Nat
  /-- `remove_file` in the guard's `Drop` fails too (only logged by the Rust code) -/
  removeFails : Bool
  deriving Repr

def okFault : Fault := ⟨.ok, 0, false⟩

/-- a path as `parent.join(file)` -/
structure Location where
  parent : String
  file : String
  deriving DecidableEq, Repr

inductive Status where
  | running
  /-- `Ok((target_path, hash))` -/
  | ok (location : Location) (hash : String)
  | err
  | crashed
  deriving DecidableEq, Repr

structure WState where
  dir : Dir
  /-- bytes handed to `buf.write_all` (and to `hasher.update`) so far -/
  handed : List UInt8
  pc : Pc
  status : Status

/-- inputs of one `write` call -/
structure Env where
  root : String
  /-- `random::<u64>()` -/
  rand : Nat
  tails : List (List UInt8)

/-- the temporary file name of this call -/
def Env.temp (e : Env) : String := tempName e.rand

def init (dir0 : Dir) : WState := ⟨dir0, [], .create, .running⟩

/-- the `while let Some(tail) = generator.try_next()?` loop head -/
def nextTail (e : Env) (i : Nat) : Pc := if i < e.tails.length then .tail i else .flush

/-- content of the temp file after a buffered operation: some prefix of everything handed
over so far, never shorter than what was already in the file -/
def partialContent (cur handed : List UInt8) (written : Nat) : List UInt8 :=
  handed.take (max written cur.length)

/-- the `?` path after the guard exists: `BufWriter`/`File` locals are dropped, then
`TempFile::drop` calls `remove_file(temp)` -/
def errPath (e : Env) (f : Fault) (dir : Dir) (handed : List UInt8) : WState :=
  ⟨if f.removeFails then dir else dirDel dir e.temp, handed, .create, .err⟩

/-- `write_all(data)` into the `BufWriter` (`data = []` for steps that write nothing) -/
def bufStep (e : Env) (f : Fault) (data : List UInt8) (flushAll : Bool) (next : Pc) (st : WState) : WState :=
  let handed := st.handed ++ data
  let cur := (dirGet st.dir e.temp).getD []
  let dirP := dirPut st.dir e.temp (partialContent cur handed f.written)
  match f.outcome with
  | .ok => ⟨if flushAll then dirPut st.dir e.temp handed else dirP, handed, next, .running⟩
  | .error => errPath e f dirP handed
  | .crash => ⟨dirP, handed, st.pc, .crashed⟩

/-- one step of `TailsFileWriter::write` under fault `f` -/
def stepW (e : Env) (f : Fault) (st : WState) : WState :=
  match st.status with
  | .running =>
    match st.pc with
    | .create =>
      match dirGet st.dir e.temp with
      | some _ =>
        -- `create_new` on an existing name: `EEXIST`, returned before the guard exists
        match f.outcome with
        | .crash => { st with status := .crashed }
        | _ => { st with status := .err }
      | none =>
        match f.outcome with
        | .ok => ⟨dirPut st.dir e.temp [], [], .header, .running⟩
        | .error => { st with status := .err }
        | .crash => ⟨if f.written = 0 then st.dir else dirPut st.dir e.temp [], [], .create, .crashed⟩
    | .header => bufStep e f versionTag false (nextTail e 0) st
    | .tail i =>
      match e.tails[i]? with
      | some t => bufStep e f t false (nextTail e (i + 1)) st
      | none => { st with pc := .flush }
    | .flush => bufStep e f [] true .close st
    | .close =>
      match f.outcome with
      | .ok => { st with pc := .rename }
      | .error => errPath e f st.dir st.handed
      | .crash => { st with status := .crashed }
    | .rename =>
      let hash := base58 (sha256 st.handed)
      match f.outcome with
      | .ok => ⟨dirRename st.dir e.temp hash, st.handed, .rename, .ok ⟨e.root, hash⟩ hash⟩
      | .error => errPath e f st.dir st.handed
      | .crash => ⟨if f.written = 0 then st.dir else dirRename st.dir e.temp hash, st.handed, .rename, .crashed⟩
  | _ => st

/-- run `k` steps; step number `j` (0 = create, 1 = header, 2.. = tails, then flush, close,
rename) meets fault `faults j`; a finished machine no longer moves -/
def runW (e : Env) (faults : Nat → Fault) : Nat → WState → WState
  | 0, st => st
  | k + 1, st => stepW e (faults k) (runW e faults k st)

/-- number of steps of a fault-free run -/
def totalSteps (e : Env) : Nat := e.tails.length + 5

end AnonModel.Tails
